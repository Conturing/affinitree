import AffVerif.Proofs.ComposeLaw
/-!
Soundness of on-the-fly pruning during composition (`composeP` / `graftP`): for every input that satisfies
the closed path conditions, the pruned copy evaluates like the un-pruned copy, provided the `explore` filter
only rejects edges whose closed path polytope is empty. Binary trees (the crate's pruning supports labels 0/1 only).
-/
set_option linter.unusedSectionVars false
namespace AV
section Structure
variable {α : Type}

theorem IKids.sole?_spec {β : Type} {ks : IKids β} {ch : ITree β} (hs : ks.sole? = some ch) :
    (∃ j, ks.get? j = some ch) ∧ ∀ j t, ks.get? j = some t → t = ch := by
  unfold IKids.sole? at hs
  split at hs
  · rename_i j0 t0 heq
    cases hs
    have hmem := fun j t => (show ks.existingFrom 0 = _ from heq) ▸ IKids.mem_existingFrom ks 0 j t
    obtain ⟨k, _, hk⟩ := (hmem j0 ch).1 (List.mem_singleton.2 rfl)
    exact ⟨⟨k, hk⟩, fun j t h => (Prod.mk.inj (List.mem_singleton.1 ((hmem (0 + j) t).2 ⟨j, rfl, h⟩))).2⟩
  · cases hs

/-- flags as `exploreKids` produces them: one per slot, `false` at an empty slot -/
def FlagsOK : List Bool → PKids α → Prop
  | fl, .nil => fl = []
  | fl, .cons none r => ∃ fl', fl = false :: fl' ∧ FlagsOK fl' r
  | fl, .cons (some _) r => ∃ b fl', fl = b :: fl' ∧ FlagsOK fl' r

theorem countTrue_le_count {fl : List Bool} {gk : PKids α} (h : FlagsOK fl gk) : countTrue fl ≤ gk.count := by
  induction gk using IKids.slots_ind generalizing fl with
  | nil => exact h ▸ Nat.le_refl _
  | none r ih =>
    obtain ⟨fl, rfl, h⟩ := h
    exact @ih fl h
  | some k r ih =>
    obtain ⟨b, fl, rfl, h⟩ := h
    cases b <;> [exact Nat.le_succ_of_le (@ih fl h); exact Nat.succ_le_succ (ih h)]

-- classes as implicit binders: see DESIGN.md §2
variable {_ : Zero α} {_ : Add α} {_ : Mul α} {_ : Neg α} {_ : Sub α} {_ : LE α} {_ : DecidableLE α}

theorem flagsOK_explore {σ : Type} (ex : Explore σ α) (pz : Bool) (pst : NState α) (path : List (Aff α))
    (paff : Aff α) (n : Nat) (gk : PKids α) (l : Nat) (s : σ) :
    FlagsOK (exploreKids ex pz pst path paff n gk l s).1 gk := by
  induction gk using IKids.slots_ind generalizing l s with
  | nil => rfl
  | none r ih => exact ⟨_, rfl, ih (l+1) s⟩
  | some k r ih => exact ⟨_, _, rfl, ih (l+1) _⟩

theorem PKids.graftP_count_nil {σ : Type} (S : Schema α) (ex : Explore σ α) (t : Aff α) (n : Nat) (paff : Aff α)
    (path : List (Aff α)) (ext : Bool) (gk : PKids α) (l : Nat) (s : σ) (c : Nat) :
    (PKids.graftP S ex t n paff path ext [] gk l s c).1.count = gk.count := by
  induction gk using IKids.slots_ind generalizing l s c with
  | nil => rfl
  | none r ih => exact ih (l+1) s c
  | some k r ih => exact congrArg Nat.succ (ih (l+1) _ _)

theorem PKids.graftP_count {σ : Type} {S : Schema α} {ex : Explore σ α} {t : Aff α} {n : Nat} {paff : Aff α}
    {path : List (Aff α)} {ext : Bool} {fl : List Bool} {gk : PKids α} {l : Nat} {s : σ} {c : Nat}
    (h : FlagsOK fl gk) : (PKids.graftP S ex t n paff path ext fl gk l s c).1.count = countTrue fl := by
  induction gk using IKids.slots_ind generalizing fl l s c with
  | nil => exact h ▸ rfl
  | none r ih =>
    obtain ⟨fl, rfl, h⟩ := h
    exact ih h
  | some k r ih =>
    obtain ⟨b, fl, rfl, h⟩ := h
    cases b <;> [exact ih h; exact congrArg Nat.succ (ih h)]

theorem PKids.graftP_length {σ : Type} (S : Schema α) (ex : Explore σ α) (t : Aff α) (n : Nat) (paff : Aff α)
    (path : List (Aff α)) (ext : Bool) (fl : List Bool) (gk : PKids α) (l : Nat) (s : σ) (c : Nat) :
    (PKids.graftP S ex t n paff path ext fl gk l s c).1.length = gk.length := by
  induction gk using IKids.slots_ind generalizing fl l s c with
  | nil => rfl
  | none r ih => exact congrArg Nat.succ (ih _ (l+1) s c)
  | some k r ih => rcases fl with _ | ⟨_ | _, fl⟩ <;> exact congrArg Nat.succ (ih _ (l+1) _ _)

/-- the ways `graftP` copies a node: above the copies of all children (`[]`: no edge was judged feasible) or of the
    flagged children, or — a decision with every slot occupied — its only copied child in place of the node. The updated
    map, the flags and the result are named (`aff'`, `fl`, `r`, each with its equation): callers pass `_ rfl` -/
theorem PT.graftP_cases {σ : Type} (S : Schema α) (ex : Explore σ α) (t : Aff α) (n idx : Nat) (st : NState α)
    (pz : Bool) (path : List (Aff α)) (j : Nat) (gc : Content α) (gk : PKids α) (s : σ) (c : Nat)
    (aff' : Aff α) (haff : aff' = S.upd gk.allNone gc.aff t)
    (fl : List Bool × σ) (hfl : fl = exploreKids ex pz st path aff' n gk 0 s) (r : PT α)
    (hr : r = (PT.graftP S ex t n idx st pz path (.node j gc gk) s c).1) :
    (∃ ks ext fl', r = .node idx ⟨aff', st⟩ ks ∧ ks.allNone = gk.allNone ∧ (fl' = [] ∨ fl' = fl.1) ∧
      ks = (PKids.graftP S ex t n aff' path ext fl' gk 0 fl.2 c).1) ∨
    (gk.count = gk.length ∧ gk.allNone = false ∧
      IKids.sole? (PKids.graftP S ex t n aff' path false fl.1 gk 0 fl.2 c).1 = some r) := by
  have hok : FlagsOK fl.1 gk := hfl ▸ flagsOK_explore ..
  have hle := countTrue_le_count hok
  -- with a flag set, the operand node is a decision and so is its copy
  have hdec : ∀ ext, 1 ≤ countTrue fl.1 →
      (PKids.graftP S ex t n aff' path ext fl.1 gk 0 fl.2 c).1.allNone = gk.allNone :=
    fun ext h => (allNone_false_of_count _ (by rw [PKids.graftP_count hok]; exact h)).trans
      (allNone_false_of_count gk (Nat.le_trans h hle)).symm
  -- split the short equation `hr`, not the goal: splitting the goal is slow to check
  unfold PT.graftP at hr
  simp only [← haff, ← hfl] at hr
  split at hr
  · exact Or.inl ⟨_, true, [], hr, allNone_eq_of_count_eq _ _ (PKids.graftP_count_nil ..), Or.inl rfl, rfl⟩
  · rename_i h0
    have h1 := Nat.pos_of_ne_zero h0
    split at hr
    · rename_i hfw
      split at hr
      · rename_i ch hs
        refine Or.inr ⟨?_, allNone_false_of_count gk (Nat.le_trans h1 hle), hr ▸ hs⟩
        have h2 := hfw.2
        rw [hfw.1, Nat.add_sub_cancel' (hfw.1 ▸ hle)] at h2
        exact h2
      · exact Or.inl ⟨_, false, _, hr, hdec false h1, Or.inr rfl, rfl⟩
    · exact Or.inl ⟨_, true, _, hr, hdec true h1, Or.inr rfl, rfl⟩

theorem PT.composeP_terminal {σ : Type} {S : Schema α} {ex : Explore σ α} {n : Nat} {path : List (Aff α)} {i : Nat}
    {fc : Content α} {ks : PKids α} {g : PT α} {s : σ} {c : Nat} (hl : ks.allNone = true) :
    PT.composeP S ex n path (.node i fc ks) g s c = PT.graftP S ex fc.aff n i fc.state (i == 0) path g s c := if_pos hl

theorem PT.composeP_decision {σ : Type} {S : Schema α} {ex : Explore σ α} {n : Nat} {path : List (Aff α)} {i : Nat}
    {fc : Content α} {ks : PKids α} {g : PT α} {s : σ} {c : Nat} (hl : ks.allNone = false) :
    PT.composeP S ex n path (.node i fc ks) g s c =
      (.node i fc (PKids.composeP S ex n path fc.aff ks 0 g s c).1, (PKids.composeP S ex n path fc.aff ks 0 g s c).2) :=
  if_neg (hl ▸ Bool.false_ne_true)

theorem PKids.composeP_count {σ : Type} (S : Schema α) (ex : Explore σ α) (n : Nat) (path : List (Aff α))
    (paff : Aff α) (ks : PKids α) (l : Nat) (g : PT α) (s : σ) (c : Nat) :
    (PKids.composeP S ex n path paff ks l g s c).1.count = ks.count := by
  induction ks using IKids.slots_ind generalizing l s c with
  | nil => rfl
  | none r ih => exact ih (l+1) s c
  | some k r ih => exact congrArg Nat.succ (ih (l+1) _ _)

theorem PKids.composeP_allNone {σ : Type} (S : Schema α) (ex : Explore σ α) (n : Nat) (path : List (Aff α))
    (paff : Aff α) (ks : PKids α) (l : Nat) (g : PT α) (s : σ) (c : Nat) :
    (PKids.composeP S ex n path paff ks l g s c).1.allNone = ks.allNone :=
  allNone_eq_of_count_eq _ _ (PKids.composeP_count ..)

theorem PKids.composeP_length {σ : Type} (S : Schema α) (ex : Explore σ α) (n : Nat) (path : List (Aff α))
    (paff : Aff α) (ks : PKids α) (l : Nat) (g : PT α) (s : σ) (c : Nat) :
    (PKids.composeP S ex n path paff ks l g s c).1.length = ks.length := by
  induction ks using IKids.slots_ind generalizing l s c with
  | nil => rfl
  | none r ih => exact congrArg Nat.succ (ih (l+1) s c)
  | some k r ih => exact congrArg Nat.succ (ih (l+1) _ _)

theorem PT.eval_decision {i : Nat} {c : Content α} {ks : PKids α} {x : List α} (h : ks.allNone = false) :
    PT.eval (.node i c ks) x = PKids.evalAt ks (c.aff.label x) x := if_neg (h ▸ Bool.false_ne_true)

theorem label_le_one (d : Aff α) (x : List α) (hrows : d.outdim ≤ 1) : d.label x ≤ 1 := by
  obtain ⟨mat, bias, n⟩ := d
  match mat, bias, hrows with
  | [], _, _ => exact Nat.zero_le _
  | [r], [], _ => exact Nat.zero_le _
  | [r], b :: bs, _ =>
    show (if dot r x - b ≤ 0 then 1 else 0) + 2 * 0 ≤ 1
    split <;> decide

end Structure

variable {α : Type} [Field α] [LinearOrder α] [IsStrictOrderedRing α]

/-- `x` satisfies every half-space of a path -/
def InPath (path : List (Aff α)) (x : List α) : Prop := ∀ h ∈ path, Poly.Mem h x

theorem InPath.append {p q : List (Aff α)} {x : List α} (hp : InPath p x) (hq : InPath q x) : InPath (p ++ q) x := by
  intro h hh
  rcases List.mem_append.mp hh with h1 | h1
  · exact hp h h1
  · exact hq h h1

theorem InPath.single {h : Aff α} {x : List α} (hm : Poly.Mem h x) : InPath [h] x :=
  fun _ hh => List.mem_singleton.1 hh ▸ hm

theorem InPath.concat {p : List (Aff α)} {h : Aff α} {x : List α} (hp : InPath p x) (hm : Poly.Mem h x) :
    InPath (p ++ [h]) x :=
  hp.append (.single hm)

theorem inPath_append_iff (p q : List (Aff α)) (x : List α) : InPath (p ++ q) x ↔ InPath p x ∧ InPath q x :=
  ⟨fun h => ⟨fun g hg => h g (List.mem_append_left _ hg), fun g hg => h g (List.mem_append_right _ hg)⟩,
   fun h => h.1.append h.2⟩

/-- the `explore` filter rejects an edge only if no point satisfies its path conditions -/
def ExploreSound {σ : Type} (ex : Explore σ α) : Prop :=
  ∀ s (e : EdgeCtx α), e.childState = .indeterminate → e.parentState ≠ .infeasible →
    (ex s e).1 = false → ¬ ∃ x, InPath e.path x

theorem mem_halfspace_label (d : Aff α) (x : List α) (hwf : d.WF) (hrows : d.outdim ≤ 1) :
    Poly.Mem (halfspace d (d.label x)) x := by
  obtain ⟨mat, bias, n⟩ := d
  obtain ⟨_, hw⟩ := hwf
  -- a well-formed decision of a binary tree has no row or one
  match mat, bias, hw, hrows with
  | [], [], _, _ => exact fun _ h => by cases h
  | [r], [b], _, _ =>
    rw [label_oneRow]
    split
    · rename_i h; exact (Poly.mem_singleton r b _ x).2 h
    · rename_i h
      refine (Poly.mem_singleton (vneg r) (-b) _ x).2 ?_
      rw [dot_vneg_left]
      exact OF.neg_le_neg_iff.2 (le_of_not_ge h)

mutual
/-- what pruning needs of the copied operand: binary nodes, and every updated decision is a well-formed
    predicate with at most one row -/
def PT.BinOK (S : Schema α) (t : Aff α) : PT α → Prop
  | .node _ gc ks =>
    ks.length = 2 ∧
    (ks.allNone = false → (S.updDecision gc.aff t).WF ∧ (S.updDecision gc.aff t).outdim ≤ 1) ∧
    PKids.BinOK S t ks
def PKids.BinOK (S : Schema α) (t : Aff α) : PKids α → Prop
  | .nil => True
  | .cons none r => PKids.BinOK S t r
  | .cons (some k) r => PT.BinOK S t k ∧ PKids.BinOK S t r
end

theorem PT.eval_graft_indep (S : Schema α) (g : PT α) (t : Aff α) (c c' : Nat) (x : List α) :
    PT.eval (PT.graft S g t c).1 x = PT.eval (PT.graft S g t c').1 x := by
  revert g c c'
  refine (ITree.ind
    (Q := fun ks => ∀ c c' l, PKids.evalAt (PKids.graft S ks t c).1 l x = PKids.evalAt (PKids.graft S ks t c').1 l x)
    ?_ (fun _ _ _ => rfl) ?_ ?_).1
  · intro i gc ks ih c c'
    show (if (PKids.graft S ks t (c+1)).1.allNone then _ else _) = (if (PKids.graft S ks t (c'+1)).1.allNone then _ else _)
    rw [PKids.graft_allNone, PKids.graft_allNone]
    exact congrArg (fun o => if ks.allNone then _ else o) (ih (c+1) (c'+1) _)
  · intro r ih c c' l
    cases l with
    | zero => rfl
    | succ l => exact ih c c' l
  · intro k r ihk ih c c' l
    cases l with
    | zero => exact ihk c c'
    | succ l => exact ih _ _ l

/-- the `explore` filter sets the flag of the slot `x` takes -/
theorem exploreKids_sound {σ : Type} {ex : Explore σ α} (hex : ExploreSound ex) (pz : Bool) (pst : NState α)
    (hpst : pst ≠ .infeasible) (path : List (Aff α)) (paff : Aff α) (n : Nat) (gk : PKids α) (l : Nat) (s : σ)
    (j : Nat) (k : PT α) (hk : gk.get? j = some k) (x : List α) (hx : InPath path x)
    (hmem : Poly.Mem (halfspace paff (l + j)) x) :
    (exploreKids ex pz pst path paff n gk l s).1.getD j true = true := by
  induction gk using IKids.slots_ind generalizing l s j with
  | nil => cases hk
  | none r ih => cases j with
    | zero => cases hk
    | succ j => exact ih (l+1) s j hk (Nat.succ_add_eq_add_succ l j ▸ hmem)
  | some k0 r ih => cases j with
    | zero => exact eq_true_of_ne_false fun hf => hex _ _ rfl hpst hf ⟨x, hx.concat hmem⟩
    | succ j => exact ih (l+1) _ j hk (Nat.succ_add_eq_add_succ l j ▸ hmem)

/-- C03 for the pruned copy: below a terminal it evaluates like the plain copy at every input that satisfies the
    terminal's path conditions; the slot the input takes stays occupied. The plain copy is spelled as a node over
    `PKids.graft` with any index, state and numbering: `PT.graft` and the terminal case of `composeS` are both of
    that form -/
theorem PT.eval_graftP_both {σ : Type} (S : Schema α) (ex : Explore σ α) (hex : ExploreSound ex)
    (t : Aff α) (n : Nat) (x : List α) :
    (∀ (g : PT α) {idx : Nat} {st : NState α} {pz : Bool} {path : List (Aff α)} {s : σ} {c i' : Nat} {st' : NState α}
      {c' : Nat}, InPath path x → st ≠ .infeasible → PT.BinOK S t g →
      PT.eval (PT.graftP S ex t n idx st pz path g s c).1 x =
        PT.eval (.node i' ⟨S.upd g.kids.allNone g.val.aff t, st'⟩ (PKids.graft S g.kids t c').1) x) ∧
    (∀ (gk : PKids α) {paff : Aff α} {path : List (Aff α)} {ext : Bool} {fl : List Bool} {l : Nat} {s : σ}
      {c c' lab : Nat}, InPath path x → Poly.Mem (halfspace paff (l + lab)) x →
      (∀ k, gk.get? lab = some k → fl.getD lab true = true) → PKids.BinOK S t gk →
      PKids.evalAt (PKids.graftP S ex t n paff path ext fl gk l s c).1 lab x =
        PKids.evalAt (PKids.graft S gk t c').1 lab x ∧
      ((gk.get? lab).isSome = true →
        ((PKids.graftP S ex t n paff path ext fl gk l s c).1.get? lab).isSome = true)) := by
  refine ITree.ind ?_ ?_ ?_ ?_
  · intro j gc gk ih idx st pz path s c i' st' c' hx hst hg
    obtain ⟨hlen, hdec, hks⟩ := hg
    show _ = PT.eval (.node i' ⟨S.upd gk.allNone gc.aff t, st'⟩ (PKids.graft S gk t c').1) x
    rw [PT.eval, PKids.graft_allNone]
    cases hall : gk.allNone with
    | true =>
      -- a terminal: no flag is set, its copy is a terminal
      rcases PT.graftP_cases S ex t n idx st pz path j gc gk s c _ rfl _ rfl _ rfl with
        ⟨ks, _, _, e, ha, _⟩ | ⟨_, h, _⟩
      · rw [e, PT.eval, ha, hall]; rfl
      · rw [hall] at h; cases h
    | false =>
      obtain ⟨hwf, hrows⟩ := hdec hall
      have haff : S.upd gk.allNone gc.aff t = S.updDecision gc.aff t := by rw [hall]; rfl
      show PT.eval _ x = PKids.evalAt _ ((S.updDecision gc.aff t).label x) x
      generalize S.updDecision gc.aff t = d at hwf hrows haff ⊢
      have hmem : Poly.Mem (halfspace d (0 + d.label x)) x := by
        rw [Nat.zero_add]; exact mem_halfspace_label d x hwf hrows
      have hfl := fun k hk => exploreKids_sound hex pz st hst path d n gk 0 s _ k hk x hx hmem
      rcases PT.graftP_cases S ex t n idx st pz path j gc gk s c d haff.symm _ rfl _ rfl with
        ⟨ks, ext, fl', e, ha, hfl', rfl⟩ | ⟨hfull, _, hsole⟩
      · rw [e, PT.eval_decision (ha.trans hall)]
        exact (ih hx hmem (by rcases hfl' with rfl | rfl <;> [exact fun _ _ => rfl; exact hfl]) hks).1
      · -- forwarded: all slots are occupied, so the slot `x` takes holds the only copied child
        obtain ⟨hk1, hk2⟩ :=
          ih (ext := false) (s := (exploreKids ex pz st path d n gk 0 s).2) (c := c) (c' := c') hx hmem hfl hks
        rw [← hk1, PKids.evalAt_eq_get?]
        have hsome := hk2 (IKids.get?_isSome_of_full gk hfull _ (hlen ▸ Nat.lt_succ_of_le (label_le_one d x hrows)))
        cases hg : IKids.get? _ (d.label x) with
        | none => rw [hg] at hsome; cases hsome
        | some ch => rw [(IKids.sole?_spec hsole).2 _ ch hg]; rfl
  · exact fun _ _ _ _ => ⟨rfl, fun h => h⟩
  · intro r ih paff path ext fl l s c c' lab hx hmem hfl hg
    cases lab with
    | zero => exact ⟨rfl, fun h => h⟩
    | succ lab => exact ih hx (Nat.succ_add_eq_add_succ l lab ▸ hmem) (by cases fl <;> exact hfl) hg
  · intro k r ihk ih paff path ext fl l s c c' lab hx hmem hfl hg
    cases lab with
    | zero =>
      have hx' : InPath (if ext then path ++ [halfspace paff l] else path) x := by
        cases ext <;> [exact hx; exact hx.concat hmem]
      cases k with | node j gc gk =>
      rcases fl with _ | ⟨_ | _, fl⟩
      · exact ⟨ihk hx' (fun e => nomatch e) hg.1, fun _ => rfl⟩
      · cases hfl _ rfl
      · exact ⟨ihk hx' (fun e => nomatch e) hg.1, fun _ => rfl⟩
    | succ lab =>
      have ih := fun s1 c1 c2 => @ih paff path ext fl.tail (l+1) s1 c1 c2 lab hx
        (Nat.succ_add_eq_add_succ l lab ▸ hmem) (by cases fl <;> exact hfl) hg.2
      rcases fl with _ | ⟨_ | _, fl⟩ <;> exact ih _ _ _

mutual
/-- side conditions of pruned composition on the left operand `f` (binary decisions) and the copied operand `g` -/
def PT.PruneOK (S : Schema α) (g : PT α) : PT α → Prop
  | .node _ c ks =>
    if ks.allNone then PT.BinOK S c.aff g
    else c.aff.WF ∧ c.aff.outdim ≤ 1 ∧ PKids.PruneOK S g ks
def PKids.PruneOK (S : Schema α) (g : PT α) : PKids α → Prop
  | .nil => True
  | .cons none r => PKids.PruneOK S g r
  | .cons (some k) r => PT.PruneOK S g k ∧ PKids.PruneOK S g r
end

mutual
/-- the infeasible clause of the cache invariant (C05) -/
def PT.InfSound : List (Aff α) → PT α → Prop
  | path, .node _ c ks => (c.state = .infeasible → ¬ ∃ x, InPath path x) ∧ PKids.InfSound path c.aff 0 ks
def PKids.InfSound : List (Aff α) → Aff α → Nat → PKids α → Prop
  | _, _, _, .nil => True
  | path, a, l, .cons none r => PKids.InfSound path a (l+1) r
  | path, a, l, .cons (some t) r => PT.InfSound (path ++ [halfspace a l]) t ∧ PKids.InfSound path a (l+1) r
end

/-- C03 for `compose::<true>` and the lifted operators: pruned and un-pruned composition agree at every input
    satisfying the path conditions accumulated so far (`[]` at the root) -/
theorem PT.eval_composeP_both {σ : Type} (S : Schema α) (ex : Explore σ α) (hex : ExploreSound ex)
    (n : Nat) (g : PT α) (x : List α) :
    (∀ (f : PT α) {path : List (Aff α)} {s : σ} {c c' : Nat},
      InPath path x → PT.PruneOK S g f → PT.InfSound path f →
      PT.eval (PT.composeP S ex n path f g s c).1 x = PT.eval (PT.composeS S f g c').1 x) ∧
    (∀ (ks : PKids α) {path : List (Aff α)} {paff : Aff α} {l : Nat} {s : σ} {c c' j : Nat},
      InPath path x → PKids.PruneOK S g ks → PKids.InfSound path paff l ks → Poly.Mem (halfspace paff (l + j)) x →
      PKids.evalAt (PKids.composeP S ex n path paff ks l g s c).1 j x =
        PKids.evalAt (PKids.composeS S ks g c').1 j x) := by
  refine ITree.ind ?_ ?_ ?_ ?_
  · intro i fc ks ih path s c c' hx hf hc
    cases hl : ks.allNone with
    | true =>
      have hf' : PT.BinOK S fc.aff g := (if_pos hl : PT.PruneOK S g (.node i fc ks) = _).mp hf
      rw [PT.composeP_terminal hl, PT.composeS_terminal hl]
      exact (PT.eval_graftP_both S ex hex fc.aff n x).1 g hx (fun h => hc.1 h ⟨x, hx⟩) hf'
    | false =>
      have hn : ¬ ks.allNone = true := hl ▸ Bool.false_ne_true
      obtain ⟨hwf, hrows, hk⟩ := (if_neg hn : PT.PruneOK S g (.node i fc ks) = _).mp hf
      rw [PT.composeP_decision hl, PT.composeS_decision hl, PT.eval, PT.eval, PKids.composeP_allNone, PKids.composeS_allNone, if_neg hn, if_neg hn]
      exact ih hx hk hc.2 ((Nat.zero_add _).symm ▸ mem_halfspace_label fc.aff x hwf hrows)
  · exact fun _ _ _ _ => rfl
  · intro r ih path paff l s c c' j hx hk hc hmem
    cases j with
    | zero => rfl
    | succ j => exact ih hx hk hc (Nat.succ_add_eq_add_succ l j ▸ hmem)
  · intro k r ihk ih path paff l s c c' j hx hk hc hmem
    cases j with
    | zero => exact ihk (hx.concat hmem) hk.1 hc.1
    | succ j => exact ih hx hk.2 hc.2 (Nat.succ_add_eq_add_succ l j ▸ hmem)

theorem PKids.evalAt_composeP {σ : Type} (S : Schema α) (ex : Explore σ α) (hex : ExploreSound ex)
    (n : Nat) (path : List (Aff α)) (paff : Aff α) (ks : PKids α) (l : Nat) (g : PT α) (s : σ) (c c' : Nat)
    (x : List α) (lab : Nat) (hx : InPath path x) (hk : PKids.PruneOK S g ks)
    (hc : PKids.InfSound path paff l ks) (hl : l ≤ lab)
    (hmem : Poly.Mem (halfspace paff lab) x) :
    PKids.evalAt (PKids.composeP S ex n path paff ks l g s c).1 (lab - l) x =
      PKids.evalAt (PKids.composeS S ks g c').1 (lab - l) x :=
  (PT.eval_composeP_both S ex hex n g x).2 ks hx hk hc ((Nat.add_sub_cancel' hl).symm ▸ hmem)

/-- the LP oracle answers `infeasible` only for empty polytopes (hypothesis of C03 / C11; validated per call, C10) -/
def InfeasibleSound {σ : Type} (lp : LPOracle σ α) : Prop :=
  ∀ s p c, (lp s p c).1 = LPAnswer.infeasible → ¬ ∃ x, Poly.Mem p x

end AV
