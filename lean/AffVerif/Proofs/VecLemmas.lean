import Mathlib.Tactic.Ring
import Mathlib.Algebra.Order.Ring.Rat
import Mathlib.Algebra.Order.Field.Basic
import AffVerif.Model.Aff
/-!
The list-based linear algebra layer. `vadd`/`vsub` are `List.zipWith`, `vneg`/`smul`/`matVec` are `List.map`: the
facts about shape (unfolding equations, lengths) come from core and need no algebra. Over any semiring `dot` is additive
in either argument and homogeneous in the first, by one induction each; `(r B)·x = r·(B x)` and `Aff.apply_compose` rest
on these alone. What needs commutativity or subtraction (`dot_comm`, `vneg = smul (-1)`, `vsub x y = vadd x (vneg y)` and
what follows from them) is stated over a field.

Why `[Semiring α]` or `[Field α]` and nothing in between: the model's functions take bare `Zero`, `Add`, `Mul`, …, and a
statement over a commutative ring or over an ordered field finds these through `Semiring α`. A lemma over `[Semiring α]`
therefore meets, at every use, the very instance terms it was stated with, and so does a lemma over `[Field α]` under a
field; a lemma over `[CommRing α]` used under a field has its instances unified path against path at every rewrite, which
is slow to check (`vneg_length` and `vadd_comm` are stated over a commutative ring all the same, like the composition
theorem of C16 that uses them).
-/
namespace AV

section Structure
-- classes as implicit binders: see DESIGN.md §2
variable {α : Type} {_ : Zero α} {_ : Add α} {_ : Mul α} {_ : Sub α} {_ : Neg α}

@[simp] theorem dot_nil_left (x : List α) : dot ([] : List α) x = 0 := rfl
@[simp] theorem dot_nil_right (x : List α) : dot x ([] : List α) = 0 := by cases x <;> rfl
@[simp] theorem dot_cons (a b : α) (as bs : List α) :
    dot (a :: as) (b :: bs) = a * b + dot as bs := rfl

@[simp] theorem vadd_nil_left (x : List α) : vadd ([] : List α) x = [] := rfl
@[simp] theorem vadd_nil_right (x : List α) : vadd x ([] : List α) = [] := by cases x <;> rfl
@[simp] theorem vadd_cons (a b : α) (as bs : List α) :
    vadd (a :: as) (b :: bs) = (a + b) :: vadd as bs := rfl
@[simp] theorem vsub_nil_left (x : List α) : vsub ([] : List α) x = [] := rfl
@[simp] theorem vsub_nil_right (x : List α) : vsub x ([] : List α) = [] := by cases x <;> rfl
@[simp] theorem vsub_cons (a b : α) (as bs : List α) :
    vsub (a :: as) (b :: bs) = (a - b) :: vsub as bs := rfl

theorem vecMat_nil_left (n : Nat) (B : Mat α) : vecMat n ([] : List α) B = zeros n := rfl
theorem vecMat_nil_right (n : Nat) (r : List α) : vecMat n r ([] : Mat α) = zeros n := by cases r <;> rfl
theorem vecMat_cons (n : Nat) (a : α) (as b : List α) (bs : Mat α) :
    vecMat n (a :: as) (b :: bs) = vadd (smul a b) (vecMat n as bs) := rfl

theorem vadd_eq_zipWith (x y : List α) : vadd x y = List.zipWith (· + ·) x y := by
  induction x generalizing y with
  | nil => rfl
  | cons a x ih => cases y with
    | nil => rfl
    | cons b y => rw [vadd_cons, ih, List.zipWith_cons_cons]

theorem vsub_eq_zipWith (x y : List α) : vsub x y = List.zipWith (· - ·) x y := by
  induction x generalizing y with
  | nil => rfl
  | cons a x ih => cases y with
    | nil => rfl
    | cons b y => rw [vsub_cons, ih, List.zipWith_cons_cons]

@[simp] theorem vadd_length (x y : List α) : (vadd x y).length = min x.length y.length := by
  rw [vadd_eq_zipWith, List.length_zipWith]

@[simp] theorem vsub_length (x y : List α) : (vsub x y).length = min x.length y.length := by
  rw [vsub_eq_zipWith, List.length_zipWith]

@[simp] theorem smul_length (c : α) (x : List α) : (smul c x).length = x.length := List.length_map _
@[simp] theorem zeros_length (n : Nat) : (zeros n : List α).length = n := List.length_replicate
@[simp] theorem matVec_length (A : Mat α) (x : List α) : (matVec A x).length = A.length := List.length_map _

@[simp] theorem zeros_succ (n : Nat) : (zeros (n+1) : List α) = 0 :: zeros n := rfl
@[simp] theorem zeros_zero : (zeros 0 : List α) = [] := rfl

theorem vadd_append (a b c d : List α) (h : a.length = c.length) :
    vadd (a ++ b) (c ++ d) = vadd a c ++ vadd b d := by
  rw [vadd_eq_zipWith, vadd_eq_zipWith, vadd_eq_zipWith, List.zipWith_append h]

theorem vecMat_length (n : Nat) (r : List α) (B : Mat α) (hB : ∀ b ∈ B, b.length = n) :
    (vecMat n r B).length = n := by
  induction r generalizing B with
  | nil => exact zeros_length n
  | cons a as ih =>
    cases B with
    | nil => exact zeros_length n
    | cons b bs =>
      rw [List.forall_mem_cons] at hB
      rw [vecMat_cons, vadd_length, smul_length, ih bs hB.2, hB.1, Nat.min_self]

end Structure

section semiring
variable {α : Type} [Semiring α]

theorem dot_vadd_left (x y z : List α) (h : x.length = y.length) :
    dot (vadd x y) z = dot x z + dot y z := by
  induction x generalizing y z with
  | nil => cases y with
    | nil => rw [vadd_nil_left, dot_nil_left, add_zero]
    | cons _ _ => cases h
  | cons a as ih =>
    cases y with
    | nil => cases h
    | cons b bs =>
      cases z with
      | nil => rw [dot_nil_right, dot_nil_right, dot_nil_right, add_zero]
      | cons c cs =>
        rw [vadd_cons, dot_cons, dot_cons, dot_cons, ih bs cs (Nat.succ.inj h), add_mul, add_add_add_comm]

theorem dot_vadd_right (r x y : List α) (h : x.length = y.length) :
    dot r (vadd x y) = dot r x + dot r y := by
  induction r generalizing x y with
  | nil => rw [dot_nil_left, dot_nil_left, dot_nil_left, add_zero]
  | cons c r ih =>
    cases x with
    | nil => cases y with
      | nil => rw [vadd_nil_left, dot_nil_right, add_zero]
      | cons _ _ => cases h
    | cons a as =>
      cases y with
      | nil => cases h
      | cons b bs =>
        rw [vadd_cons, dot_cons, dot_cons, dot_cons, ih as bs (Nat.succ.inj h), mul_add, add_add_add_comm]

theorem dot_smul_left (c : α) (x z : List α) : dot (smul c x) z = c * dot x z := by
  induction x generalizing z with
  | nil => rw [smul, List.map_nil, dot_nil_left, mul_zero]
  | cons a as ih =>
    cases z with
    | nil => rw [dot_nil_right, dot_nil_right, mul_zero]
    | cons d ds => rw [smul, List.map_cons, dot_cons, dot_cons, ← smul, ih ds, mul_add, mul_assoc]

theorem dot_append (a a' x x' : List α) (h : a.length = x.length) :
    dot (a ++ a') (x ++ x') = dot a x + dot a' x' := by
  induction a generalizing x with
  | nil => cases x with
    | nil => rw [List.nil_append, List.nil_append, dot_nil_left, zero_add]
    | cons _ _ => cases h
  | cons c a ih => cases x with
    | nil => cases h
    | cons d x =>
      rw [List.cons_append, List.cons_append, dot_cons, dot_cons, ih x (Nat.succ.inj h), add_assoc]

theorem dot_all_zero (v x : List α) (h : ∀ e ∈ v, e = 0) : dot v x = 0 := by
  induction v generalizing x with
  | nil => rfl
  | cons a as ih =>
    cases x with
    | nil => rfl
    | cons b bs =>
      rw [List.forall_mem_cons] at h
      rw [dot_cons, h.1, ih bs h.2, zero_mul, add_zero]

@[simp] theorem dot_zeros_left (n : Nat) (z : List α) : dot (zeros n : List α) z = 0 :=
  dot_all_zero _ z fun _ he => List.eq_of_mem_replicate he

/-- no hypothesis on the length of `r`: both sides stop at the shorter of `r` and `B` -/
theorem dot_vecMat (n : Nat) (r : List α) (B : Mat α) (x : List α) (hB : ∀ b ∈ B, b.length = n) :
    dot (vecMat n r B) x = dot r (matVec B x) := by
  induction r generalizing B with
  | nil => rw [vecMat_nil_left, dot_zeros_left, dot_nil_left]
  | cons a as ih =>
    cases B with
    | nil => rw [vecMat_nil_right, dot_zeros_left, matVec, List.map_nil, dot_nil_right]
    | cons b bs =>
      rw [List.forall_mem_cons] at hB
      rw [vecMat_cons, matVec, List.map_cons, dot_cons,
        dot_vadd_left _ _ _ (by rw [smul_length, vecMat_length n as bs hB.2, hB.1]),
        dot_smul_left, ih bs hB.2]
      rfl

theorem matVec_matMul (n : Nat) (A B : Mat α) (x : List α) (hB : ∀ b ∈ B, b.length = n) :
    matVec (matMul n A B) x = matVec A (matVec B x) := by
  simp only [matVec, matMul, List.map_map]
  exact List.map_congr_left fun r _ => dot_vecMat n r B x hB

theorem matVec_vadd (A : Mat α) (x y : List α) (h : x.length = y.length) :
    matVec A (vadd x y) = vadd (matVec A x) (matVec A y) := by
  rw [vadd_eq_zipWith (matVec A x), matVec, matVec, matVec, List.zipWith_map_left, List.zipWith_map_right,
    List.zipWith_self]
  exact List.map_congr_left fun r _ => dot_vadd_right r x y h

theorem vadd_assoc (x y z : List α) : vadd (vadd x y) z = vadd x (vadd y z) := by
  induction x generalizing y z with
  | nil => rfl
  | cons a as ih =>
    cases y with
    | nil => rfl
    | cons b bs =>
      cases z with
      | nil => rfl
      | cons c cs => rw [vadd_cons, vadd_cons, vadd_cons, vadd_cons, ih, add_assoc]

theorem vadd_zeros_right (v : List α) (n : Nat) (h : v.length = n) : vadd v (zeros n) = v := by
  subst h
  induction v with
  | nil => rfl
  | cons a v ih => rw [List.length_cons, zeros_succ, vadd_cons, ih, add_zero]

theorem Aff.apply_compose (f g : Aff α) (x : List α) (hg : g.WF) :
    (f.compose g).apply x = f.apply (g.apply x) := by
  unfold Aff.compose Aff.apply
  simp only
  rw [matVec_matMul g.indim f.mat g.mat x hg.1]
  rw [matVec_vadd f.mat (matVec g.mat x) g.bias (by rw [matVec_length, hg.2])]
  rw [vadd_assoc]

theorem dot_apply (f : Aff α) (a x : List α) (hf : f.WF) :
    dot a (f.apply x) = dot (vecMat f.indim a f.mat) x + dot a f.bias := by
  unfold Aff.apply
  rw [dot_vadd_right a _ _ (by rw [matVec_length, hf.2]), dot_vecMat f.indim a f.mat x hf.1]

end semiring

section ring
variable {α : Type} [CommRing α]

@[simp] theorem vneg_length (x : List α) : (vneg x).length = x.length := List.length_map _

theorem vadd_comm (x y : List α) : vadd x y = vadd y x := by
  rw [vadd_eq_zipWith, vadd_eq_zipWith, List.zipWith_comm]
  simp only [add_comm]

end ring

/-!
Mathlib states the facts below over mixin classes (`AddLeftMono`, `AddRightMono`, …, `HasDistribNeg`), core states
`beq_iff_eq` over `LawfulBEq` (here: the test `==` of a linear order). Instantiating them at
`[Field α] [LinearOrder α] [IsStrictOrderedRing α]` is what is slow to check, and it is paid at every use; here it is
paid once per fact. `OF.x` is the library's `x` at these classes (or at those of them it needs), nothing else; the namespace
is never opened.
-/
section ordered
variable {α : Type} [Field α] [LinearOrder α] [IsStrictOrderedRing α]

theorem OF.neg_le_neg_iff {a b : α} : -a ≤ -b ↔ b ≤ a := _root_.neg_le_neg_iff
theorem OF.sub_nonneg {a b : α} : 0 ≤ a - b ↔ b ≤ a := _root_.sub_nonneg
theorem OF.sub_nonpos {a b : α} : a - b ≤ 0 ↔ a ≤ b := _root_.sub_nonpos
theorem OF.neg_nonpos {a : α} : -a ≤ 0 ↔ 0 ≤ a := _root_.neg_nonpos
theorem OF.neg_one_mul {α : Type} [Field α] (a : α) : -1 * a = -a := _root_.neg_one_mul a
theorem OF.beq_iff_eq {α : Type} [LinearOrder α] {a b : α} : (a == b) = true ↔ a = b := _root_.beq_iff_eq

end ordered

section field
variable {α : Type} [Field α]

theorem dot_comm (x y : List α) : dot x y = dot y x := by
  induction x generalizing y with
  | nil => rw [dot_nil_left, dot_nil_right]
  | cons a as ih =>
    cases y with
    | nil => rfl
    | cons b bs => rw [dot_cons, dot_cons, ih bs, mul_comm]

theorem vneg_eq_smul (x : List α) : vneg x = smul (-1) x :=
  List.map_congr_left fun e _ => (OF.neg_one_mul e).symm

theorem vsub_eq_vadd_vneg (x y : List α) : vsub x y = vadd x (vneg y) := by
  rw [vsub_eq_zipWith, vadd_eq_zipWith, vneg, List.zipWith_map_right]
  simp only [sub_eq_add_neg]

theorem dot_vneg_left (a x : List α) : dot (vneg a) x = - dot a x := by
  rw [vneg_eq_smul, dot_smul_left, OF.neg_one_mul]

theorem dot_smul_right (c : α) (r d : List α) : dot r (smul c d) = c * dot r d := by
  rw [dot_comm, dot_smul_left, dot_comm]

theorem dot_vneg_right (r x : List α) : dot r (vneg x) = - dot r x := by
  rw [dot_comm, dot_vneg_left, dot_comm]

theorem dot_vsub_right (r x y : List α) (h : x.length = y.length) :
    dot r (vsub x y) = dot r x - dot r y := by
  rw [vsub_eq_vadd_vneg, dot_vadd_right r x _ (by rw [vneg_length, h]), dot_vneg_right, sub_eq_add_neg]

theorem dot_vadd_smul (r x d : List α) (t : α) (h : x.length = d.length) :
    dot r (vadd x (smul t d)) = dot r x + t * dot r d := by
  rw [dot_vadd_right _ _ _ (by rw [smul_length, h]), dot_smul_right]

@[simp] theorem dot_zeros_right (n : Nat) (z : List α) : dot z (zeros n : List α) = 0 := by
  rw [dot_comm, dot_zeros_left]

/-- the slack of a row pulled back along `f`: `(r M)·x − (−r·c + b) = r·(M x + c) − b` -/
theorem dot_vecMat_sub (f : Aff α) (r x : List α) (b : α) (hf : f.WF) :
    dot (vecMat f.indim r f.mat) x - (-dot r f.bias + b) = dot r (f.apply x) - b := by
  rw [dot_apply f r x hf, neg_add_eq_sub, sub_sub_eq_add_sub]

/-! The point-wise operators on maps (`Add`, `Sub`, `Neg` of `AffFunc`): what they compute at an input -/

/-- same row shapes: row `i` of `A` is as long as row `i` of `B` -/
def SameRows : Mat α → Mat α → Prop
  | a :: as, b :: bs => a.length = b.length ∧ SameRows as bs
  | [], [] => True
  | _, _ => False

theorem matVec_matZip_vadd (A B : Mat α) (x : List α) (h : SameRows A B) :
    matVec (matZip vadd A B) x = vadd (matVec A x) (matVec B x) :=
  match A, B, h with
  | [], [], _ => rfl
  | a :: as, b :: bs, h => by
    show dot (vadd a b) x :: matVec (matZip vadd as bs) x = _
    rw [dot_vadd_left a b x h.1, matVec_matZip_vadd as bs x h.2]; rfl

theorem Aff.apply_add (f g : Aff α) (x : List α) (h : SameRows f.mat g.mat) :
    (f.add g).apply x = vadd (f.apply x) (g.apply x) := by
  show vadd (matVec (matZip vadd f.mat g.mat) x) (vadd f.bias g.bias) = vadd (vadd _ f.bias) (vadd _ g.bias)
  -- `(p + q) + (r + s) = (p + r) + (q + s)`
  rw [matVec_matZip_vadd f.mat g.mat x h, vadd_assoc, ← vadd_assoc (matVec g.mat x), vadd_comm (matVec g.mat x),
    vadd_assoc f.bias, ← vadd_assoc]

theorem matVec_matNeg (A : Mat α) (x : List α) : matVec (matNeg A) x = vneg (matVec A x) := by
  simp only [matVec, matNeg, vneg, List.map_map]
  exact List.map_congr_left fun a _ => dot_vneg_left a x

theorem vneg_vadd (p q : List α) : vneg (vadd p q) = vadd (vneg p) (vneg q) := by
  simp only [vneg, vadd_eq_zipWith, List.map_zipWith, List.zipWith_map, neg_add]

theorem Aff.apply_neg (f : Aff α) (x : List α) : f.neg.apply x = vneg (f.apply x) := by
  show vadd (matVec (matNeg f.mat) x) (vneg f.bias) = _
  rw [matVec_matNeg, ← vneg_vadd]; rfl

theorem matZip_vsub : ∀ A B : Mat α, matZip vsub A B = matZip vadd A (matNeg B)
  | [], _ => rfl
  | _ :: _, [] => rfl
  | a :: A, b :: B => by rw [matZip, matZip_vsub A B, vsub_eq_vadd_vneg]; rfl

theorem Aff.sub_eq_add_neg (f g : Aff α) : f.sub g = f.add g.neg := by
  rw [Aff.sub, Aff.add, matZip_vsub, vsub_eq_vadd_vneg]; rfl

theorem SameRows.neg : ∀ {A B : Mat α}, SameRows A B → SameRows A (matNeg B)
  | [], [], _ => trivial
  | a :: A, b :: B, h => ⟨by rw [h.1, vneg_length], SameRows.neg h.2⟩

theorem Aff.apply_sub (f g : Aff α) (x : List α) (h : SameRows f.mat g.mat) :
    (f.sub g).apply x = vsub (f.apply x) (g.apply x) := by
  rw [Aff.sub_eq_add_neg, Aff.apply_add f g.neg x h.neg, Aff.apply_neg, ← vsub_eq_vadd_vneg]

end field

end AV
