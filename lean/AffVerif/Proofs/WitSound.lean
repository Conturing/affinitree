import AffVerif.Proofs.StateSound
/-!
The witness clause of the cache invariant (C05), the instance `StWit tol` of `PT.StSound`: every point stored at a node
satisfies the node's path conditions within the containment tolerance `tol` of the code (`1e-8`). The three phases
establish it for every LP backend (the sweep re-checks the solver's point with `contains`) and every `mirror_points`
whose answers lie in the polytope they were asked for.
-/
set_option linter.unusedSectionVars false
namespace AV
-- `InPath` and `Poly.containsTol` take these two classes; the third comes where a law of the order is used
variable {α : Type} [Field α] [LinearOrder α]

/-- `x` satisfies every half-space of the path up to the slack `tol` (the code's `contains`) -/
def InPathTol (tol : α) (path : List (Aff α)) (x : List α) : Prop :=
  ∀ h ∈ path, Poly.containsTol tol h x = true

/-- the witness clause for one cached state: every stored point satisfies the path within `tol` -/
def StWit (tol : α) (path : List (Aff α)) (st : NState α) : Prop :=
  ∀ ws, st = .witness ws → ∀ w ∈ ws, InPathTol tol path w

mutual
def PT.WitSound (tol : α) : List (Aff α) → PT α → Prop
  | path, .node _ c ks => StWit tol path c.state ∧ PKids.WitSound tol path c.aff 0 ks
def PKids.WitSound (tol : α) : List (Aff α) → Aff α → Nat → PKids α → Prop
  | _, _, _, .nil => True
  | path, a, l, .cons none r => PKids.WitSound tol path a (l+1) r
  | path, a, l, .cons (some t) r => PT.WitSound tol (path ++ [halfspace a l]) t ∧ PKids.WitSound tol path a (l+1) r
end

theorem PKids.witSound_iff (tol : α) (path : List (Aff α)) (a : Aff α) (l : Nat) (ks : PKids α) :
    PKids.WitSound tol path a l ks ↔ PKids.StSound (StWit tol) path a l ks := by
  induction ks using IKids.nested_ind generalizing path a l with
  | nil => exact Iff.rfl
  | none r ih => exact ih path a (l+1)
  | some i c ks r ihk ih => exact and_congr (and_congr Iff.rfl (ihk _ c.aff 0)) (ih path a (l+1))

theorem PT.witSound_iff (tol : α) (path : List (Aff α)) (t : PT α) :
    PT.WitSound tol path t ↔ PT.StSound (StWit tol) path t :=
  match t with
  | .node _ c ks => and_congr Iff.rfl (PKids.witSound_iff tol path c.aff 0 ks)

theorem stWit_indeterminate (tol : α) (path : List (Aff α)) : StWit tol path (.indeterminate : NState α) :=
  fun _ h => by cases h

theorem stWit_pred (tol : α) : StPred (StWit tol) :=
  ⟨fun _ _ hqp _ h ws hw w hm hh hq => h ws hw w hm hh (hqp hh hq)⟩

theorem stWit_plant (tol : α) (path : List (Aff α)) (pts : List (List α)) (hp : ∀ w ∈ pts, InPathTol tol path w)
    (st : NState α) (h : StWit tol path st) : StWit tol path (NState.plant pts st) := by
  cases st with
  | witness ws0 =>
    rintro _ ⟨⟩ w hw
    exact (List.mem_append.1 hw).elim (h ws0 rfl w) (hp w)
  | _ => exact h

/-- a statement about the instance `StWit tol` of `PT.StSound`, read as one about `PT.WitSound tol` -/
theorem PT.witSound_of_stSound {tol : α} {p q : List (Aff α)} {t t' : PT α}
    (f : PT.StSound (StWit tol) p t → PT.StSound (StWit tol) q t') (h : PT.WitSound tol p t) : PT.WitSound tol q t' :=
  (PT.witSound_iff tol q t').2 (f ((PT.witSound_iff tol p t).1 h))

theorem PKids.witSound_of_stSound {tol : α} {p q : List (Aff α)} {a b : Aff α} {l k : Nat} {ks ks' : PKids α}
    (f : PKids.StSound (StWit tol) p a l ks → PKids.StSound (StWit tol) q b k ks') (h : PKids.WitSound tol p a l ks) :
    PKids.WitSound tol q b k ks' :=
  (PKids.witSound_iff tol q b k ks').2 (f ((PKids.witSound_iff tol p a l ks).1 h))

/-- `phase_one` hands out what `mirror_points` returns; the heuristic's contract (C05, third clause) is that the
    returned points lie in the polytope they were asked for -/
def MirrorSound {σ : Type} (tol : α) (mirror : MirrorOracle σ α) : Prop :=
  ∀ s node poly ws k pts s', mirror s node poly ws k = (some pts, s') → ∀ p ∈ pts, Poly.containsTol tol poly p = true

/-- a point is stored only after `contains` accepted it — whatever the solver and the heuristic return -/
theorem Decided.stWit {σ : Type} {tol : α} {O : Oracles σ α} {s : σ} {node : Nat} {pst : NState α}
    {path : List (Aff α)} {hyper : Aff α} {n : Nat} {r : NState α} (hd : Decided tol O s node pst path hyper n r)
    (hm : MirrorSound tol O.mirror) (hp : StWit tol path pst) : StWit tol (path ++ [hyper]) r := by
  intro ws' hw w hmem
  cases hd with
  | inherited ws hpw hne =>
    cases hw
    obtain ⟨hw, hc⟩ := List.mem_filter.mp hmem
    exact List.forall_mem_append.2 ⟨hp ws hpw w hw, List.forall_mem_singleton.2 hc⟩
  | mirrored ws pts s' hpw hmi =>
    cases hw
    exact Poly.containsTol_intersectionN (hm s node _ ws 8 _ s' hmi w hmem)
  | solved s' _ hs =>
    cases hs with
    | point p hc =>
      cases hw
      rw [List.mem_singleton.mp hmem]
      exact Poly.containsTol_intersectionN hc
    | _ => cases hw

section ordered
variable [IsStrictOrderedRing α]

theorem PKids.stSound_of_witSound (tol : α) (ks : PKids α) (path : List (Aff α)) (a : Aff α) (l : Nat)
    (h : PKids.WitSound tol path a l ks) : PKids.StSound (StWit tol) path a l ks :=
  (PKids.witSound_iff tol path a l ks).1 h

theorem PKids.witSound_composeS (tol : α) (S : Schema α) (ks : PKids α) (g : PT α) (c : Nat) (path : List (Aff α))
    (a : Aff α) (l : Nat) (h : PKids.WitSound tol path a l ks) :
    PKids.WitSound tol path a l (PKids.composeS S ks g c).1 :=
  PKids.witSound_of_stSound (PKids.stSound_composeS _ (stWit_indeterminate tol) S ks g c path a l) h

theorem PKids.witSound_mapTerminals (tol : α) (φ : Aff α → Aff α) (ks : PKids α) (path : List (Aff α)) (a : Aff α)
    (l : Nat) (h : PKids.WitSound tol path a l ks) : PKids.WitSound tol path a l (PKids.mapTerminals φ ks) :=
  PKids.witSound_of_stSound (PKids.stSound_mapTerminals _ φ ks path a l) h

theorem PKids.witSound_mono (tol : α) (ks : PKids α) (p q : List (Aff α)) (a : Aff α) (l : Nat)
    (hqp : ∀ h ∈ q, h ∈ p) (h : PKids.WitSound tol p a l ks) : PKids.WitSound tol q a l ks :=
  PKids.witSound_of_stSound (PKids.stSound_mono _ (stWit_pred tol) ks p q a l hqp) h

theorem PKids.witSound_composeP {σ : Type} (tol : α) (S : Schema α) (ex : Explore σ α) (n : Nat)
    (path : List (Aff α)) (paff : Aff α) (ks : PKids α) (l : Nat) (g : PT α) (s : σ) (c : Nat)
    (h : PKids.WitSound tol path paff l ks) :
    PKids.WitSound tol path paff l (PKids.composeP S ex n path paff ks l g s c).1 :=
  PKids.witSound_of_stSound (PKids.stSound_composeP _ (stWit_indeterminate tol) S ex n path paff ks l g s c) h

theorem PKids.witSound_reduceAux (tol : α) (ks : PKids α) (path : List (Aff α)) (a : Aff α) (l : Nat)
    (h : PKids.WitSound tol path a l ks) : PKids.WitSound tol path a l (PKids.reduceAux ks) :=
  PKids.witSound_of_stSound (PKids.stSound_reduceAux _ (stWit_pred tol) ks path a l) h

end ordered
end AV
