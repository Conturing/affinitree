import AffVerif.Proofs.StateSound
import AffVerif.Proofs.InfOnly
/-!
The infeasible clause of the cache invariant (C05), the instance `StInf` of `PT.StSound`. It is not monotone in the
path. `forward_if_redundant` may shorten paths all the same: the dropped half-space's sibling is marked infeasible, hence
empty, so both paths describe the same set (`stInf_fwd`). `reduce` keeps it because the child that moves one step up
had a sibling, hence is not marked infeasible (`InfOnly`).
-/
set_option linter.unusedSectionVars false
namespace AV
-- `InPath` takes these two classes; the third comes where a law of the order is used
variable {α : Type} [Field α] [LinearOrder α]

/-- the infeasible clause for one cached state: `Infeasible` only on an empty closed path polytope -/
def StInf (path : List (Aff α)) (st : NState α) : Prop := st = .infeasible → ¬ ∃ x, InPath path x

theorem stInf_indeterminate (path : List (Aff α)) : StInf path (.indeterminate : NState α) := fun h => by cases h

theorem stInf_plant (path : List (Aff α)) (st : NState α) (pts : List (List α)) (h : StInf path st) :
    StInf path (NState.plant pts st) := fun hi => h ((NState.plant_inf pts st).1 hi)

theorem PKids.infSound_iff (path : List (Aff α)) (a : Aff α) (l : Nat) (ks : PKids α) :
    PKids.InfSound path a l ks ↔ PKids.StSound StInf path a l ks := by
  induction ks using IKids.nested_ind generalizing path a l with
  | nil => exact Iff.rfl
  | none r ih => exact ih path a (l+1)
  | some i c ks r ihk ih => exact and_congr (and_congr Iff.rfl (ihk _ c.aff 0)) (ih path a (l+1))

theorem PT.infSound_iff (path : List (Aff α)) (t : PT α) : PT.InfSound path t ↔ PT.StSound StInf path t :=
  match t with
  | .node _ c ks => and_congr Iff.rfl (PKids.infSound_iff path c.aff 0 ks)

/-- a statement about the instance `StInf` of `PT.StSound`, read as one about `PT.InfSound` -/
theorem PT.infSound_of_stSound {p q : List (Aff α)} {t t' : PT α}
    (f : PT.StSound StInf p t → PT.StSound StInf q t') (h : PT.InfSound p t) : PT.InfSound q t' :=
  (PT.infSound_iff q t').2 (f ((PT.infSound_iff p t).1 h))

theorem PKids.infSound_of_stSound {p q : List (Aff α)} {a b : Aff α} {l k : Nat} {ks ks' : PKids α}
    (f : PKids.StSound StInf p a l ks → PKids.StSound StInf q b k ks') (h : PKids.InfSound p a l ks) :
    PKids.InfSound q b k ks' :=
  (PKids.infSound_iff q b k ks').2 (f ((PKids.infSound_iff p a l ks).1 h))

theorem PT.infSound_of_fresh (t : PT α) (path : List (Aff α)) (h : PT.Fresh t) : PT.InfSound path t :=
  (PT.infSound_iff path t).2 (PT.stSound_of_fresh StInf stInf_indeterminate t path h)

section ordered
variable [IsStrictOrderedRing α]

theorem stInf_congr (p q : List (Aff α)) (hpq : ∀ x, InPath p x ↔ InPath q x) (e : List (Aff α)) (st : NState α)
    (h : StInf (p ++ e) st) : StInf (q ++ e) st := by
  rintro hs ⟨x, hx⟩
  rw [inPath_append_iff, ← hpq x, ← inPath_append_iff] at hx
  exact h hs ⟨x, hx⟩

/-- the two closed half-spaces of a one-row decision cover the space: where one side of a decision is empty, the other side
    is the whole path region -/
theorem path_equiv_of_other_empty (path : List (Aff α)) (d : Aff α) (l : Nat) (hl : l ≤ 1)
    (hwf : d.WF) (hrows : d.outdim ≤ 1) (hemp : ¬ ∃ x, InPath (path ++ [halfspace d (1 - l)]) x) (x : List α) :
    InPath (path ++ [halfspace d l]) x ↔ InPath path x := by
  refine ⟨fun hx => ((inPath_append_iff _ _ x).1 hx).1, fun hx => hx.concat ?_⟩
  have hno : ¬ Poly.Mem (halfspace d (1 - l)) x := fun hm => hemp ⟨x, hx.concat hm⟩
  -- `x` lies on the side of its label `k ≤ 1`: that is `l`, or the empty side `1 - l`
  have h := mem_halfspace_label d x hwf hrows
  have hle : d.label x ≤ 1 := label_le_one d x hrows
  generalize d.label x = k at h hle
  rcases Nat.le_one_iff_eq_zero_or_eq_one.1 hl with rfl | rfl <;>
    rcases Nat.le_one_iff_eq_zero_or_eq_one.1 hle with rfl | rfl
  exacts [h, absurd h hno, absurd h hno, h]

theorem stInf_fwd : StFwd (StInf (α := α)) :=
  ⟨fun path d l _ hwf hrows hl hi hsib =>
    stInf_congr _ _ (path_equiv_of_other_empty path d l hl hwf hrows (hsib ((NState.isInfeasible_iff _).1 hi)))⟩

theorem PT.infSound_composeS (S : Schema α) (f g : PT α) (c : Nat) (path : List (Aff α))
    (h : PT.InfSound path f) : PT.InfSound path (PT.composeS S f g c).1 :=
  PT.infSound_of_stSound (PT.stSound_composeS StInf stInf_indeterminate S f g c path) h

theorem PKids.infSound_composeS (S : Schema α) (ks : PKids α) (g : PT α) (c : Nat) (path : List (Aff α))
    (a : Aff α) (l : Nat) (h : PKids.InfSound path a l ks) :
    PKids.InfSound path a l (PKids.composeS S ks g c).1 :=
  PKids.infSound_of_stSound (PKids.stSound_composeS StInf stInf_indeterminate S ks g c path a l) h

theorem PT.infSound_mapTerminals (φ : Aff α → Aff α) (t : PT α) (path : List (Aff α))
    (h : PT.InfSound path t) : PT.InfSound path (PT.mapTerminals φ t) :=
  PT.infSound_of_stSound (PT.stSound_mapTerminals StInf φ t path) h

theorem PKids.infSound_mapTerminals (φ : Aff α → Aff α) (ks : PKids α) (path : List (Aff α)) (a : Aff α) (l : Nat)
    (h : PKids.InfSound path a l ks) : PKids.InfSound path a l (PKids.mapTerminals φ ks) :=
  PKids.infSound_of_stSound (PKids.stSound_mapTerminals StInf φ ks path a l) h

theorem PKids.infSound_congr (ks : PKids α) (p q : List (Aff α)) (a : Aff α) (l : Nat)
    (hpq : ∀ x, InPath p x ↔ InPath q x) (h : PKids.InfSound p a l ks) : PKids.InfSound q a l ks :=
  PKids.infSound_of_stSound ((PT.stSound_move_both StInf).2 ks p q a l (stInf_congr p q hpq)) h

theorem PT.infSound_composeP {σ : Type} (S : Schema α) (ex : Explore σ α) (n : Nat) (path : List (Aff α))
    (f g : PT α) (s : σ) (c : Nat) (h : PT.InfSound path f) :
    PT.InfSound path (PT.composeP S ex n path f g s c).1 :=
  PT.infSound_of_stSound (PT.stSound_composeP StInf stInf_indeterminate S ex n path f g s c) h

theorem PKids.infSound_composeP {σ : Type} (S : Schema α) (ex : Explore σ α) (n : Nat) (path : List (Aff α))
    (paff : Aff α) (ks : PKids α) (l : Nat) (g : PT α) (s : σ) (c : Nat) (h : PKids.InfSound path paff l ks) :
    PKids.InfSound path paff l (PKids.composeP S ex n path paff ks l g s c).1 :=
  PKids.infSound_of_stSound (PKids.stSound_composeP StInf stInf_indeterminate S ex n path paff ks l g s c) h

/-- C05, infeasible clause, for `infeasible_elimination` -/
theorem PT.infSound_infeasibleElimination {σ : Type} (tol : α) (O : Oracles σ α) (hlp : InfeasibleSound O.lp) (n : Nat)
    (t : PT α) (s : σ) (hok : PT.ElimOK t) (h : PT.InfSound [] t) :
    PT.InfSound [] (infeasibleElimination tol O n t s).1 :=
  PT.infSound_of_stSound (PT.stSound_infeasibleElimination StInf stInf_fwd tol O n
    (fun _ _ _ _ _ _ hd _ h => hd.sound hlp ((NState.isInfeasible_iff _).2 h))
    t s hok) h

theorem PKids.infSound_reduceAux (ks : PKids α) (path : List (Aff α)) (a : Aff α) (l : Nat)
    (h : PKids.InfSound path a l ks) (ho : PKids.InfOnly ks) : PKids.InfSound path a l (PKids.reduceAux ks) := by
  induction ks using IKids.nested_ind generalizing path a l with
  | nil => trivial
  | none r ih => exact ih path a (l+1) h ho
  | some i c ks r ihk ih =>
    refine ⟨?_, ih path a (l+1) h.2 ho.2⟩
    have hk := ihk _ c.aff 0 h.1.2 ho.1.2
    rcases PT.reduceAux_node false i c ks with he | ⟨a', b, he, _, hks, hat, _⟩ <;> rw [he]
    · exact ⟨h.1.1, hk⟩
    · -- `a'` is a terminal that is not marked infeasible (it has a sibling): both clauses are immediate
      have hno := (PKids.infOnlyKept_reduceAux ks ho.1.2).noInf
        (ho.1.1 (PKids.reduceAux_count ks ▸ hks ▸ Nat.le_refl 2))
      rw [hks] at hno
      exact (PT.infSound_iff _ _).2 ((PT.stSound_iff _ _ _).2
        ⟨fun hs => absurd hs hno.1, PKids.stSound_allNone _ _ _ _ _ hat⟩)

theorem PT.infSound_reduce (t : PT α) (path : List (Aff α)) (h : PT.InfSound path t) (ho : PT.InfOnly t) :
    PT.InfSound path (PT.reduce t) :=
  match t with
  | .node _ c ks => ⟨h.1, PKids.infSound_reduceAux ks path c.aff 0 h.2 ho.2⟩

end ordered
end AV
