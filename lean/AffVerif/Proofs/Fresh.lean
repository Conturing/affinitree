import AffVerif.Proofs.PruneSound
/-!
Fresh trees: every cached state is `Indeterminate`. Every copy of an operand made by a composition is fresh —
the plain copy (`graft`) and the pruned copy (`graftP`), whatever states the operand carried and whatever the
`explore` filter answered. What `mapTerminals`, `composeS` and `composeP` do to their left operand is stated once, node
by node (`PT.Regrown`) and for a whole slot list (`PKids.Regrown`); the cache clauses (`StateSound`) and `InfOnly` are
each shown once to survive it.
-/
set_option linter.unusedSectionVars false
namespace AV
section Structure
variable {α : Type}

mutual
/-- all cached states are `Indeterminate` (fresh nodes) -/
def PT.Fresh : PT α → Prop
  | .node _ c ks => c.state = .indeterminate ∧ PKids.Fresh ks
def PKids.Fresh : PKids α → Prop
  | .nil => True
  | .cons none r => PKids.Fresh r
  | .cons (some t) r => PT.Fresh t ∧ PKids.Fresh r
end

theorem PKids.fresh_get? {ks : PKids α} {l : Nat} {ch : PT α} (h : PKids.Fresh ks) (hg : ks.get? l = some ch) :
    PT.Fresh ch := by
  induction ks using IKids.slots_ind generalizing l with
  | nil => cases hg
  | none r ih => cases l with
    | zero => cases hg
    | succ l => exact ih h hg
  | some t r ih => cases l with
    | zero => cases hg; exact h.1
    | succ l => exact ih h.2 hg

theorem PKids.fresh_graft (S : Schema α) (ks : PKids α) (t : Aff α) (c : Nat) : PKids.Fresh (PKids.graft S ks t c).1 := by
  induction ks using IKids.nested_ind generalizing c with
  | nil => trivial
  | none r ih => exact ih c
  | some j gc ks r ihk ih => exact ⟨⟨rfl, ihk (c+1)⟩, ih _⟩

/-- how `mapTerminals`, `composeS` and `composeP` rebuild a node `(i, c)` of their left operand: a decision stays, above its
    rebuilt children `ks'`; a terminal's node is reused for the copy of the right operand's root (index and cached state
    stay, what is below is fresh), or the pruned composition puts a fresh tree in its place (forwarding) -/
inductive PT.Regrown (i : Nat) (c : Content α) (ks' : PKids α) : PT α → Prop where
  | kept : PT.Regrown i c ks' (.node i c ks')
  | reused (a : Aff α) (kids : PKids α) (hk : PKids.Fresh kids) : PT.Regrown i c ks' (.node i ⟨a, c.state⟩ kids)
  | fresh {t : PT α} (ht : PT.Fresh t) : PT.Regrown i c ks' t

theorem PT.Regrown.state_ne_inf {i : Nat} {c : Content α} {ks' : PKids α} {t' : PT α} (hr : PT.Regrown i c ks' t')
    (h : c.state ≠ .infeasible) : t'.val.state ≠ .infeasible := by
  cases hr with
  | kept => exact h
  | reused a kids hk => exact h
  | fresh ht => cases t' with | node j tc kk => exact fun e => (by cases ht.1.symm.trans e)

theorem PT.Regrown.isFresh {i : Nat} {a : Aff α} {ks' : PKids α} {t' : PT α}
    (hr : PT.Regrown i ⟨a, .indeterminate⟩ ks' t') (hk : PKids.Fresh ks') : PT.Fresh t' := by
  cases hr with
  | kept => exact ⟨rfl, hk⟩
  | reused a kids hf => exact ⟨rfl, hf⟩
  | fresh ht => exact ht

/-- slot by slot, every child of `ks` regrown into the child of `ks'` in the same slot -/
inductive PKids.Regrown : PKids α → PKids α → Prop where
  | nil : PKids.Regrown .nil .nil
  | none {r r' : PKids α} (hr : PKids.Regrown r r') : PKids.Regrown (.cons none r) (.cons none r')
  | some {i : Nat} {c : Content α} {ks ks' r r' : PKids α} {t' : PT α} (ht : PT.Regrown i c ks' t')
      (hk : PKids.Regrown ks ks') (hr : PKids.Regrown r r') :
      PKids.Regrown (.cons (some (.node i c ks)) r) (.cons (some t') r')

theorem PT.mapTerminals_regrown (φ : Aff α → Aff α) (i : Nat) (c : Content α) (ks : PKids α) :
    PT.Regrown i c (PKids.mapTerminals φ ks) (PT.mapTerminals φ (.node i c ks)) := by
  cases hl : ks.allNone with
  | true =>
    rw [PT.mapTerminals_terminal hl]
    exact .reused _ ks (IKids.allNone_ind (Q := PKids.Fresh) trivial (fun _ ih => ih) ks hl)
  | false => rw [PT.mapTerminals_decision hl]; exact .kept

theorem PKids.mapTerminals_regrown (φ : Aff α → Aff α) (ks : PKids α) : PKids.Regrown ks (PKids.mapTerminals φ ks) := by
  induction ks using IKids.nested_ind with
  | nil => exact .nil
  | none r ih => exact .none ih
  | some i c ks r ihk ih => exact .some (PT.mapTerminals_regrown φ i c ks) ihk ih

theorem PT.composeS_regrown (S : Schema α) (i : Nat) (fc : Content α) (ks : PKids α) (g : PT α) (c : Nat) :
    PT.Regrown i fc (PKids.composeS S ks g c).1 (PT.composeS S (.node i fc ks) g c).1 := by
  cases hl : ks.allNone with
  | true => rw [PT.composeS_terminal hl]; exact .reused _ _ (PKids.fresh_graft S g.kids fc.aff c)
  | false => rw [PT.composeS_decision hl]; exact .kept

theorem PKids.composeS_regrown (S : Schema α) (ks : PKids α) (g : PT α) (c : Nat) :
    PKids.Regrown ks (PKids.composeS S ks g c).1 := by
  induction ks using IKids.nested_ind generalizing c with
  | nil => exact .nil
  | none r ih => exact .none (ih c)
  | some i fc ks r ihk ih => exact .some (PT.composeS_regrown S i fc ks g c) (ihk c) (ih _)

-- classes as implicit binders: see DESIGN.md §2
variable {_ : Neg α}

/-- the pruned copy that takes the place of a terminal `(idx, c)`: its root keeps the state of the terminal, unless a
    forwarded child takes its place; never `kept`, so `ks'` is arbitrary -/
theorem PT.graftP_regrown_both {σ : Type} (S : Schema α) (ex : Explore σ α) (t : Aff α) (n : Nat) :
    (∀ (g : PT α) (idx : Nat) (c : Content α) (ks' : PKids α) (pz : Bool) (path : List (Aff α)) (s : σ) (c0 : Nat),
      PT.Regrown idx c ks' (PT.graftP S ex t n idx c.state pz path g s c0).1) ∧
    (∀ (gk : PKids α) {paff : Aff α} {path : List (Aff α)} {ext : Bool} {fl : List Bool} {l : Nat} {s : σ} {c : Nat},
      PKids.Fresh (PKids.graftP S ex t n paff path ext fl gk l s c).1) := by
  refine ITree.ind ?_ trivial (fun r ih => ih) ?_
  · intro j gc gk ih idx c ks' pz path s c0
    rcases PT.graftP_cases S ex t n idx c.state pz path j gc gk s c0 _ rfl _ rfl _ rfl with
      ⟨ks, ext, fl', e, _, _, rfl⟩ | ⟨_, _, hsole⟩
    · exact e ▸ .reused _ _ ih
    · obtain ⟨⟨l, hl⟩, _⟩ := IKids.sole?_spec hsole
      exact .fresh (PKids.fresh_get? ih hl)
  · intro k r ihk ih paff path ext fl l s c
    have hk := fun p => (ihk c ⟨t, .indeterminate⟩ .nil false p s (c+1)).isFresh trivial
    rcases fl with _ | ⟨_ | _, fl⟩
    · exact ⟨hk _, ih⟩
    · exact ih
    · exact ⟨hk _, ih⟩

theorem PT.composeP_regrown {σ : Type} (S : Schema α) (ex : Explore σ α) (n : Nat) (path : List (Aff α)) (i : Nat)
    (fc : Content α) (ks : PKids α) (g : PT α) (s : σ) (c : Nat) :
    PT.Regrown i fc (PKids.composeP S ex n path fc.aff ks 0 g s c).1 (PT.composeP S ex n path (.node i fc ks) g s c).1 := by
  cases hl : ks.allNone with
  | true => exact PT.composeP_terminal hl ▸ (PT.graftP_regrown_both S ex fc.aff n).1 g i fc _ (i == 0) path s c
  | false => rw [PT.composeP_decision hl]; exact .kept

theorem PKids.composeP_regrown {σ : Type} (S : Schema α) (ex : Explore σ α) (n : Nat) (path : List (Aff α))
    (paff : Aff α) (ks : PKids α) (l : Nat) (g : PT α) (s : σ) (c : Nat) :
    PKids.Regrown ks (PKids.composeP S ex n path paff ks l g s c).1 := by
  induction ks using IKids.nested_ind generalizing path paff l s c with
  | nil => exact .nil
  | none r ih => exact .none (ih path paff (l+1) s c)
  | some i fc ks r ihk ih =>
    exact .some (PT.composeP_regrown S ex n _ i fc ks g s c) (ihk _ fc.aff 0 s c) (ih path paff (l+1) _ _)

end Structure

variable {α : Type} [Field α] [LinearOrder α] [IsStrictOrderedRing α]

theorem PT.fresh_graft (S : Schema α) (g : PT α) (t : Aff α) (c : Nat) : PT.Fresh (PT.graft S g t c).1 :=
  (PKids.fresh_graft S (.cons (some g) .nil) t c).1

theorem PT.fresh_graftP {σ : Type} (S : Schema α) (ex : Explore σ α) (t : Aff α) (n idx : Nat) (pz : Bool)
    (path : List (Aff α)) (g : PT α) (s : σ) (c : Nat) :
    PT.Fresh (PT.graftP S ex t n idx .indeterminate pz path g s c).1 :=
  ((PT.graftP_regrown_both S ex t n).1 g idx ⟨t, .indeterminate⟩ .nil pz path s c).isFresh trivial

end AV
