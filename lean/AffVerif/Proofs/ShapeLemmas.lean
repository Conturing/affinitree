import AffVerif.Proofs.ReduceLemmas
import AffVerif.Proofs.ElimSound
/-!
Well-formedness (`PT.Shaped`, C04): a shaped binary tree satisfies the side conditions of the pruning and sweep
theorems, and every transformation keeps a shaped tree shaped. Pruned composition and the sweep do so whatever the LP
backend answers: a copied decision never loses all its children (keep-all when no edge is judged feasible), and a
decision is forwarded only when exactly one child survives.
-/
set_option linter.unusedSectionVars false
namespace AV
section Structure
variable {α : Type}

theorem outdim_le_one_of_pow (k : Nat) (h : 2 ^ k ≤ 2) : k ≤ 1 :=
  (Nat.pow_le_pow_iff_right (by decide : 1 < 2)).1 (h.trans_eq (Nat.pow_one 2).symm)

theorem PKids.binOK_of_shaped (S : Schema α) (t : Aff α) (n m : Nat)
    (hS : ∀ d : Aff α, d.WF → (S.updDecision d t).WF ∧ (S.updDecision d t).outdim = d.outdim)
    (ks : PKids α) (h : PKids.Shaped 2 n m ks) : PKids.BinOK S t ks := by
  induction ks using IKids.nested_ind with
  | nil => trivial
  | none r ih => exact ih h
  | some j gc ks r ihk ih =>
    obtain ⟨⟨hwf, _, hlen, _, hdec, hk⟩, hr⟩ := h
    exact ⟨⟨hlen, fun hall => ⟨(hS _ hwf).1, (hS _ hwf).2 ▸ outdim_le_one_of_pow _ (hdec hall)⟩, ihk hk⟩, ih hr⟩

theorem PKids.graft_length (S : Schema α) (ks : PKids α) (t : Aff α) (c : Nat) :
    (PKids.graft S ks t c).1.length = ks.length := by
  induction ks using IKids.slots_ind generalizing c with
  | nil => rfl
  | none r ih => exact congrArg Nat.succ (ih c)
  | some k r ih => exact congrArg Nat.succ (ih _)

theorem PKids.composeS_length (S : Schema α) (ks : PKids α) (g : PT α) (c : Nat) :
    (PKids.composeS S ks g c).1.length = ks.length := by
  induction ks using IKids.slots_ind generalizing c with
  | nil => rfl
  | none r ih => exact congrArg Nat.succ (ih c)
  | some k r ih => exact congrArg Nat.succ (ih _)

theorem PKids.mapTerminals_length (φ : Aff α → Aff α) (ks : PKids α) :
    (PKids.mapTerminals φ ks).length = ks.length := by
  induction ks using IKids.slots_ind with
  | nil => rfl
  | none r ih => exact congrArg Nat.succ ih
  | some k r ih => exact congrArg Nat.succ ih

theorem PKids.shaped_of_allNone (ks : PKids α) (K n m : Nat) (h : ks.allNone = true) : PKids.Shaped K n m ks :=
  IKids.allNone_ind (Q := PKids.Shaped K n m) trivial (fun _ h => h) ks h

/-- what the schema's updates have to guarantee: a terminal of the operand (`q` columns, `p` rows) becomes a map with
    `n` columns and `p'` rows, a decision keeps its number of rows -/
structure SchemaShaped (S : Schema α) (t : Aff α) (n q p p' : Nat) : Prop where
  term : ∀ o : Aff α, o.WF → o.indim = q → o.outdim = p →
    (S.updTerminal o t).WF ∧ (S.updTerminal o t).indim = n ∧ (S.updTerminal o t).outdim = p'
  dec : ∀ o : Aff α, o.WF → o.indim = q →
    (S.updDecision o t).WF ∧ (S.updDecision o t).indim = n ∧ (S.updDecision o t).outdim = o.outdim

theorem PT.shaped_upd {S : Schema α} {t : Aff α} {n q p p' : Nat} (hS : SchemaShaped S t n q p p') {K idx : Nat}
    {st : NState α} {j : Nat} {gc : Content α} {gk ks : PKids α} (hg : PT.Shaped K q p (.node j gc gk))
    (hks : PKids.Shaped K n p' ks) (hlen : ks.length = K) (ha : ks.allNone = gk.allNone) :
    PT.Shaped K n p' (.node idx ⟨S.upd gk.allNone gc.aff t, st⟩ ks) := by
  obtain ⟨hwf, hin, _, hout, hdec, _⟩ := hg
  cases hl : gk.allNone with
  | true =>
    obtain ⟨h1, h2, h3⟩ := hS.term gc.aff hwf hin (hout hl)
    exact ⟨h1, h2, hlen, fun _ => h3, fun h => Bool.noConfusion ((ha.trans hl).symm.trans h), hks⟩
  | false =>
    obtain ⟨h1, h2, h3⟩ := hS.dec gc.aff hwf hin
    exact ⟨h1, h2, hlen, fun h => Bool.noConfusion ((ha.trans hl).symm.trans h), fun _ => h3 ▸ hdec hl, hks⟩

theorem PKids.shaped_get? {K n m : Nat} {ks : PKids α} {l : Nat} {ch : PT α} (h : PKids.Shaped K n m ks)
    (hg : ks.get? l = some ch) : PT.Shaped K n m ch := by
  induction ks using IKids.slots_ind generalizing l with
  | nil => cases hg
  | none r ih => cases l with
    | zero => cases hg
    | succ l => exact ih h hg
  | some t r ih => cases l with
    | zero => cases hg; exact h.1
    | succ l => exact ih h.2 hg

theorem PKids.shaped_set_none (K n m : Nat) (ks : PKids α) (l : Nat) (h : PKids.Shaped K n m ks) :
    PKids.Shaped K n m (ks.set l none) := by
  induction ks using IKids.slots_ind generalizing l with
  | nil => trivial
  | none r ih => cases l with
    | zero => exact h
    | succ l => exact ih l h
  | some t r ih => cases l with
    | zero => exact h.2
    | succ l => exact ⟨h.1, ih l h.2⟩

/-- a node keeps its map above rebuilt slots: as many, occupied or not as before; the terminal dimension may change
    below a decision -/
theorem PT.shaped_node_congr {K n m m' i : Nat} {a : Aff α} {st st' : NState α} {ks ks' : PKids α}
    (h : PT.Shaped K n m (.node i ⟨a, st⟩ ks)) (hl : ks'.length = ks.length) (ha : ks'.allNone = ks.allNone)
    (hm : ks.allNone = true → m = m') (hk : PKids.Shaped K n m' ks') : PT.Shaped K n m' (.node i ⟨a, st'⟩ ks') :=
  ⟨h.1, h.2.1, hl.trans h.2.2.1, fun e => (h.2.2.2.1 (ha ▸ e)).trans (hm (ha ▸ e)), ha ▸ h.2.2.2.2.1, hk⟩

theorem matZip_length (φ : List α → List α → List α) (A B : Mat α) :
    (matZip φ A B).length = min A.length B.length :=
  match A, B with
  | [], _ => (Nat.zero_min _).symm
  | _ :: _, [] => (Nat.min_zero _).symm
  | _ :: as, _ :: bs => (congrArg Nat.succ (matZip_length φ as bs)).trans (Nat.succ_min_succ _ _).symm

theorem matZip_rows (φ : List α → List α → List α) (n : Nat)
    (hφ : ∀ a b : List α, a.length = n → b.length = n → (φ a b).length = n) (A B : Mat α)
    (hA : ∀ r ∈ A, r.length = n) (hB : ∀ r ∈ B, r.length = n) : ∀ r ∈ matZip φ A B, r.length = n :=
  match A, B with
  | [], _ => fun _ h => nomatch h
  | _ :: _, [] => fun _ h => nomatch h
  | a :: as, b :: bs => fun r hr =>
    (List.mem_cons.1 hr).elim (fun e => e ▸ hφ a b (hA a List.mem_cons_self) (hB b List.mem_cons_self))
      (matZip_rows φ n hφ as bs (fun r h => hA r (List.mem_cons_of_mem _ h)) (fun r h => hB r (List.mem_cons_of_mem _ h)) r)

theorem arith_shape (φ : List α → List α → List α)
    (hφ : ∀ a b : List α, (φ a b).length = min a.length b.length) (f g : Aff α)
    (hf : f.WF) (hg : g.WF) (hin : g.indim = f.indim) (hout : g.outdim = f.outdim) :
    let r : Aff α := { mat := matZip φ f.mat g.mat, bias := φ f.bias g.bias, indim := f.indim }
    r.WF ∧ r.indim = f.indim ∧ r.outdim = f.outdim := by
  intro r
  unfold Aff.outdim at hout ⊢
  refine ⟨⟨?_, ?_⟩, rfl, ?_⟩
  · exact matZip_rows φ f.indim (fun a b ha hb => by rw [hφ, ha, hb, Nat.min_self]) f.mat g.mat hf.1
      (fun r hr => by rw [hg.1 r hr, hin])
  · show (φ f.bias g.bias).length = (matZip φ f.mat g.mat).length
    rw [hφ, matZip_length, hf.2, hg.2, hout]
  · show (matZip φ f.mat g.mat).length = f.mat.length
    rw [matZip_length, hout, Nat.min_self]

theorem PT.shaped_graft_both (S : Schema α) (t : Aff α) (K n q p p' : Nat) (hS : SchemaShaped S t n q p p') :
    (∀ (g : PT α) (idx : Nat) (st : NState α) (c : Nat), PT.Shaped K q p g →
      PT.Shaped K n p' (.node idx ⟨S.upd g.kids.allNone g.val.aff t, st⟩ (PKids.graft S g.kids t c).1)) ∧
    (∀ (ks : PKids α) (c : Nat), PKids.Shaped K q p ks → PKids.Shaped K n p' (PKids.graft S ks t c).1) := by
  refine ITree.ind ?_ (fun _ _ => trivial) (fun r ih c hk => ih c hk) ?_
  · exact fun j gc ks ih idx st c hg => PT.shaped_upd hS hg (ih c hg.2.2.2.2.2)
      ((PKids.graft_length ..).trans hg.2.2.1) (PKids.graft_allNone ..)
  · intro k r ihk ih c hk
    cases k with | node j gc gk => exact ⟨ihk c .indeterminate (c+1) hk.1, ih _ hk.2⟩

/-- C04 for `compose::<false>` and every other un-pruned composition -/
theorem PT.shaped_composeS_both (S : Schema α) (g : PT α) (K n m q p p' : Nat)
    (hS : ∀ t : Aff α, t.WF → t.indim = n → t.outdim = m → SchemaShaped S t n q p p') (hg : PT.Shaped K q p g) :
    (∀ (f : PT α) (c : Nat), PT.Shaped K n m f → PT.Shaped K n p' (PT.composeS S f g c).1) ∧
    (∀ (ks : PKids α) (c : Nat), PKids.Shaped K n m ks → PKids.Shaped K n p' (PKids.composeS S ks g c).1) := by
  refine ITree.ind ?_ (fun _ _ => trivial) (fun r ih c hk => ih c hk) (fun k r ihk ih c hk => ⟨ihk c hk.1, ih _ hk.2⟩)
  intro i fc ks ih c hf
  cases hl : ks.allNone with
  | true =>
    rw [PT.composeS_terminal hl]
    exact (PT.shaped_graft_both S fc.aff K n q p p' (hS fc.aff hf.1 hf.2.1 (hf.2.2.2.1 hl))).1 g i fc.state c hg
  | false =>
    rw [PT.composeS_decision hl]
    exact PT.shaped_node_congr hf (PKids.composeS_length ..) (PKids.composeS_allNone ..)
      (fun h => Bool.noConfusion (hl.symm.trans h)) (ih c hf.2.2.2.2.2)

-- classes as implicit binders: see DESIGN.md §2
variable {_ : Zero α} {_ : One α} {_ : Add α} {_ : Mul α} {_ : Neg α} {_ : Sub α} {_ : LE α} {_ : DecidableLE α}

theorem updDecision_wf (d t : Aff α) (hd : d.WF) (ht : t.WF) : (d.updDecision t).WF := by
  refine ⟨fun r hr => ?_, ?_⟩
  · obtain ⟨r0, _, rfl⟩ := List.mem_map.1 hr
    exact vecMat_length t.indim r0 t.mat ht.1
  · show (vadd (vneg (matVec d.mat t.bias)) d.bias).length = (matMul t.indim d.mat t.mat).length
    rw [vadd_length, show (vneg (matVec d.mat t.bias)).length = _ from List.length_map _, matVec_length, hd.2, Nat.min_self]
    exact (List.length_map _).symm

theorem updDecision_outdim (d t : Aff α) : (d.updDecision t).outdim = d.outdim := by
  simp [Aff.updDecision, Aff.outdim, matMul]

theorem compose_wf (f g : Aff α) (hf : f.WF) (hg : g.WF) : (f.compose g).WF := by
  refine ⟨fun r hr => ?_, ?_⟩
  · obtain ⟨r0, _, rfl⟩ := List.mem_map.1 hr
    exact vecMat_length g.indim r0 g.mat hg.1
  · show (vadd (matVec f.mat g.bias) f.bias).length = (matMul g.indim f.mat g.mat).length
    rw [vadd_length, matVec_length, hf.2, Nat.min_self]
    exact (List.length_map _).symm

theorem compose_outdim (f g : Aff α) : (f.compose g).outdim = f.outdim := List.length_map _

theorem schemaShaped_compose (t : Aff α) (ht : t.WF) (n m p : Nat) (hn : t.indim = n) (hm : t.outdim = m) :
    SchemaShaped Schema.compose t n m p p := by
  subst hn hm
  constructor
  · intro o ho _ hp
    simp only [Schema.compose]
    exact ⟨compose_wf o t ho ht, rfl, by rw [compose_outdim]; exact hp⟩
  · intro o ho _
    simp only [Schema.compose]
    exact ⟨updDecision_wf o t ho ht, rfl, updDecision_outdim o t⟩

theorem vmul_length (x y : List α) : (vmul x y).length = min x.length y.length :=
  match x, y with
  | [], _ => (Nat.zero_min _).symm
  | _ :: _, [] => (Nat.min_zero _).symm
  | _ :: as, _ :: bs => (congrArg Nat.succ (vmul_length as bs)).trans (Nat.succ_min_succ _ _).symm

theorem schemaShaped_arith {_ : Div α} (op : ArithOp) (t : Aff α) (ht : t.WF) (n m : Nat) (hn : t.indim = n) (hm : t.outdim = m) :
    SchemaShaped (Schema.arith op.onAff) t n n m m := by
  subst hn hm
  constructor
  · intro o ho hi hp
    simp only [Schema.arith]
    cases op with
    | add => exact arith_shape vadd vadd_length t o ht ho hi hp
    | sub => exact arith_shape vsub vsub_length t o ht ho hi hp
    | mul => exact arith_shape vmul vmul_length t o ht ho hi hp
    | div => exact arith_shape (List.zipWith (· / ·)) (fun a b => List.length_zipWith) t o ht ho hi hp
  · intro o ho hi
    simp only [Schema.arith]
    exact ⟨ho, hi, trivial⟩

theorem PT.shaped_graftP_both {σ : Type} (S : Schema α) (ex : Explore σ α) (t : Aff α) (n K q p p' : Nat)
    (hS : SchemaShaped S t n q p p') :
    (∀ (g : PT α) {idx : Nat} {st : NState α} {pz : Bool} {path : List (Aff α)} {s : σ} {c : Nat},
      PT.Shaped K q p g → PT.Shaped K n p' (PT.graftP S ex t n idx st pz path g s c).1) ∧
    (∀ (gk : PKids α) {paff : Aff α} {path : List (Aff α)} {ext : Bool} {fl : List Bool} {l : Nat} {s : σ} {c : Nat},
      PKids.Shaped K q p gk → PKids.Shaped K n p' (PKids.graftP S ex t n paff path ext fl gk l s c).1) := by
  refine ITree.ind ?_ (fun _ => trivial) (fun r ih => fun hk => ih hk) ?_
  · intro j gc gk ih idx st pz path s c hg
    rcases PT.graftP_cases S ex t n idx st pz path j gc gk s c _ rfl _ rfl _ rfl with
      ⟨ks, ext, fl', e, ha, _, rfl⟩ | ⟨_, _, hsole⟩
    · exact e ▸ PT.shaped_upd hS hg (ih hg.2.2.2.2.2) ((PKids.graftP_length ..).trans hg.2.2.1) ha
    · obtain ⟨⟨l, hl⟩, _⟩ := IKids.sole?_spec hsole
      exact PKids.shaped_get? (ih hg.2.2.2.2.2) hl
  · intro k r ihk ih paff path ext fl l s c hk
    rcases fl with _ | ⟨_ | _, fl⟩
    · exact ⟨ihk hk.1, ih hk.2⟩
    · exact ih hk.2
    · exact ⟨ihk hk.1, ih hk.2⟩

/-- C04 for `compose::<true>` and the tree-tree operators: every `explore` filter, no hypothesis on the LP backend -/
theorem PT.shaped_composeP_both {σ : Type} (S : Schema α) (ex : Explore σ α) (n : Nat) (g : PT α) (K m q p p' : Nat)
    (hS : ∀ t : Aff α, t.WF → t.indim = n → t.outdim = m → SchemaShaped S t n q p p') (hg : PT.Shaped K q p g) :
    (∀ (f : PT α) {path : List (Aff α)} {s : σ} {c : Nat},
      PT.Shaped K n m f → PT.Shaped K n p' (PT.composeP S ex n path f g s c).1) ∧
    (∀ (ks : PKids α) {path : List (Aff α)} {paff : Aff α} {l : Nat} {s : σ} {c : Nat},
      PKids.Shaped K n m ks → PKids.Shaped K n p' (PKids.composeP S ex n path paff ks l g s c).1) := by
  refine ITree.ind ?_ (fun _ => trivial) (fun r ih => fun hk => ih hk) (fun k r ihk ih => fun hk => ⟨ihk hk.1, ih hk.2⟩)
  intro i fc ks ih path s c hf
  cases hl : ks.allNone with
  | true =>
    exact PT.composeP_terminal hl ▸
      (PT.shaped_graftP_both S ex fc.aff n K q p p' (hS fc.aff hf.1 hf.2.1 (hf.2.2.2.1 hl))).1 g hg
  | false =>
    exact PT.composeP_decision hl ▸ PT.shaped_node_congr hf (PKids.composeP_length ..) (PKids.composeP_allNone ..)
      (fun h => Bool.noConfusion (hl.symm.trans h)) (ih hf.2.2.2.2.2)

/-- C04 / C11 for `infeasible_elimination`: the swept tree is well-formed, whatever the oracles answer -/
theorem PT.shaped_elim_both {σ : Type} (tol : α) (O : Oracles σ α) (n K m : Nat) :
    (∀ (t : PT α) (isRoot : Bool) (path : List (Aff α)) (st : NState α) (s : σ), PT.Shaped K n m t →
      PT.Shaped K n m (elimNode tol O n isRoot path st t s).1) ∧
    (∀ (ks : PKids α) (path : List (Aff α)) (paff : Aff α) (pst : NState α) (l : Nat) (s : σ), PKids.Shaped K n m ks →
      PKids.Shaped K n m (elimKids tol O n path paff pst ks l s).kids) := by
  refine ITree.ind ?_ (fun _ _ _ _ _ _ => trivial) (fun _ ih path paff pst l s => ih path paff pst (l+1) s) ?_
  · intro i c ks ih isRoot path st s h
    have hk := ih path c.aff st 0 s h.2.2.2.2.2
    -- the node keeps its map, so any shaped slot list with as many slots and the same terminal / decision status will do
    have node : ∀ ks', ks'.length = (elimKids tol O n path c.aff st ks 0 s).kids.length →
        ks'.allNone = (elimKids tol O n path c.aff st ks 0 s).kids.allNone → PKids.Shaped K n m ks' →
        PT.Shaped K n m (.node i ⟨c.aff, st⟩ ks') := fun ks' hl ha =>
      PT.shaped_node_congr h (hl.trans (elimKids_length ..)) (ha.trans (elimKids_allNone ..)) fun _ => rfl
    refine elimNode_elim tol O n isRoot path st i c ks s _ rfl (fun ls _ _ => ?_) fun _ a b hks => ?_
    · refine node _ ?_ (removeLabels_allNone _ _) (removeLabels_induct _ _ (fun k l _ _ => PKids.shaped_set_none K n m k l) hk)
      exact removeLabels_induct (Q := fun ks' => ks'.length = _) _ _ (fun ks' l _ _ e => by rw [IKids.length_set, e]) rfl
    · rw [hks] at hk
      exact ⟨fun _ _ => hk.1, fun _ _ => hk.2.1⟩
  · intro ch r ihch ihr path paff pst l s h
    rw [elimKids_cons_some]
    refine ⟨?_, ihr path paff pst (l+1) _ h.2⟩
    exact elimChild_elim (motive := fun c => PT.Shaped K n m c.1) tol O n path paff pst ch l s _ rfl (fun _ => h.1)
      (fun _ _ => by cases ch with | node j cc kk => exact PT.shaped_node_congr h.1 rfl rfl (fun _ => rfl) h.1.2.2.2.2.2)
      fun st' s' _ _ _ => ihch false _ st' s' h.1

end Structure

variable {α : Type} [Field α] [LinearOrder α] [IsStrictOrderedRing α]

theorem PKids.binOK_compose_of_shaped (ks : PKids α) (t : Aff α) (ht : t.WF) (m : Nat)
    (hk : PKids.Shaped 2 t.outdim m ks) : PKids.BinOK Schema.compose t ks :=
  PKids.binOK_of_shaped Schema.compose t t.outdim m (fun d hd => ⟨updDecision_wf d t hd ht, updDecision_outdim d t⟩) ks hk

theorem PKids.binOK_arith_of_shaped (op : Aff α → Aff α → Aff α) (ks : PKids α) (t : Aff α) (n m : Nat)
    (hk : PKids.Shaped 2 n m ks) : PKids.BinOK (Schema.arith op) t ks :=
  PKids.binOK_of_shaped (Schema.arith op) t n m (fun _ hd => ⟨hd, rfl⟩) ks hk

theorem PKids.pruneOK_of_shaped (S : Schema α) (g : PT α) (ks : PKids α) (n m : Nat) (hk : PKids.Shaped 2 n m ks)
    (hterm : ∀ t : Aff α, t.WF → t.outdim = m → PT.BinOK S t g) : PKids.PruneOK S g ks := by
  induction ks using IKids.nested_ind with
  | nil => trivial
  | none r ih => exact ih hk
  | some i c ks r ihk ih =>
    obtain ⟨⟨hwf, _, _, hout, hdec, hk⟩, hr⟩ := hk
    refine ⟨?_, ih hr⟩
    cases hl : ks.allNone with
    | true => exact (if_pos hl).mpr (hterm c.aff hwf (hout hl))
    | false => exact (if_neg (hl ▸ Bool.false_ne_true)).mpr ⟨hwf, outdim_le_one_of_pow _ (hdec hl), ihk hk⟩

theorem PKids.elimOK_of_shaped (ks : PKids α) (n m : Nat) (h : PKids.Shaped 2 n m ks) : PKids.ElimOK ks := by
  induction ks using IKids.nested_ind with
  | nil => trivial
  | none r ih => exact ih h
  | some i c ks r ihk ih =>
    obtain ⟨⟨hwf, _, hlen, _, hdec, hk⟩, hr⟩ := h
    exact ⟨⟨hlen, fun hall => ⟨hwf, outdim_le_one_of_pow _ (hdec hall)⟩, ihk hk⟩, ih hr⟩

theorem PT.elimOK_of_shaped (t : PT α) (n m : Nat) (h : PT.Shaped 2 n m t) : PT.ElimOK t :=
  (PKids.elimOK_of_shaped (.cons (some t) .nil) n m ⟨h, trivial⟩).1

theorem PKids.shaped_composeS (ks : PKids α) (g : PT α) (c : Nat) (K n m p : Nat)
    (hk : PKids.Shaped K n m ks) (hg : PT.Shaped K m p g) :
    PKids.Shaped K n p (PKids.composeS Schema.compose ks g c).1 :=
  (PT.shaped_composeS_both _ g K n m m p p (fun t ht => schemaShaped_compose t ht n m p) hg).2 ks c hk

theorem PKids.shaped_mapTerminals (φ : Aff α → Aff α) (ks : PKids α) (K n m m' : Nat)
    (hφ : ∀ a : Aff α, a.WF → a.indim = n → a.outdim = m → (φ a).WF ∧ (φ a).indim = n ∧ (φ a).outdim = m')
    (hk : PKids.Shaped K n m ks) : PKids.Shaped K n m' (PKids.mapTerminals φ ks) := by
  induction ks using IKids.nested_ind with
  | nil => trivial
  | none r ih => exact ih hk
  | some i c ks r ihk ih =>
    refine ⟨?_, ih hk.2⟩
    obtain ⟨ht, _⟩ := hk
    cases hl : ks.allNone with
    | true =>
      obtain ⟨h1, h2, h3⟩ := hφ c.aff ht.1 ht.2.1 (ht.2.2.2.1 hl)
      exact PT.mapTerminals_terminal hl ▸ ⟨h1, h2, ht.2.2.1, fun _ => h3, fun h => Bool.noConfusion (hl.symm.trans h),
        PKids.shaped_of_allNone ks K n m' hl⟩
    | false =>
      exact PT.mapTerminals_decision hl ▸ PT.shaped_node_congr ht (PKids.mapTerminals_length φ ks)
        (PKids.mapTerminals_allNone φ ks) (fun h => Bool.noConfusion (hl.symm.trans h)) (ihk ht.2.2.2.2.2)

/-- C04 for `apply_func`, `neg` and the mixed tree/affine operators -/
theorem PT.shaped_mapTerminals (φ : Aff α → Aff α) (t : PT α) (K n m m' : Nat)
    (hφ : ∀ a : Aff α, a.WF → a.indim = n → a.outdim = m → (φ a).WF ∧ (φ a).indim = n ∧ (φ a).outdim = m')
    (ht : PT.Shaped K n m t) : PT.Shaped K n m' (PT.mapTerminals φ t) :=
  (PKids.shaped_mapTerminals φ (.cons (some t) .nil) K n m m' hφ ⟨ht, trivial⟩).1

theorem PKids.shaped_graftP {σ : Type} (S : Schema α) (ex : Explore σ α) (t : Aff α) (n : Nat) (paff : Aff α)
    (path : List (Aff α)) (ext : Bool) (fl : List Bool) (gk : PKids α) (l : Nat) (s : σ) (c : Nat)
    (K q p p' : Nat) (hS : SchemaShaped S t n q p p') (hk : PKids.Shaped K q p gk) :
    PKids.Shaped K n p' (PKids.graftP S ex t n paff path ext fl gk l s c).1 :=
  (PT.shaped_graftP_both S ex t n K q p p' hS).2 gk hk

theorem PKids.shaped_composeP {σ : Type} (S : Schema α) (ex : Explore σ α) (n : Nat) (path : List (Aff α))
    (paff : Aff α) (ks : PKids α) (l : Nat) (g : PT α) (s : σ) (c : Nat) (K m q p p' : Nat)
    (hS : ∀ t : Aff α, t.WF → t.indim = n → t.outdim = m → SchemaShaped S t n q p p')
    (hk : PKids.Shaped K n m ks) (hg : PT.Shaped K q p g) :
    PKids.Shaped K n p' (PKids.composeP S ex n path paff ks l g s c).1 :=
  (PT.shaped_composeP_both S ex n g K m q p p' hS hg).2 ks hk

theorem PKids.shaped_reduceAux (ks : PKids α) (K n m : Nat) (h : PKids.Shaped K n m ks) :
    PKids.Shaped K n m (PKids.reduceAux ks) := by
  induction ks using IKids.nested_ind with
  | nil => trivial
  | none r ih => exact ih h
  | some i c ks r ihk ih =>
    refine ⟨?_, ih h.2⟩
    have hk' := ihk h.1.2.2.2.2.2
    rcases PT.reduceAux_node false i c ks with he | ⟨a, b, he, _, hks, _⟩ <;> rw [he]
    · exact PT.shaped_node_congr h.1 (PKids.reduceAux_length ks) (PKids.reduceAux_allNone ks) (fun _ => rfl) hk'
    · rw [hks] at hk'; exact hk'.1

end AV
