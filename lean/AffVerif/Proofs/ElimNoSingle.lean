import AffVerif.Proofs.ElimSound
/-!
C06, structural part: for arbitrary oracles, on a total binary tree whose sibling pairs are both fresh or both cached
feasible (a fresh composition is one; a swept tree that lost a child at its root is not), the sweep leaves no decision below the root with a single
branch, unless that branch is itself marked `Infeasible` (both halves were judged empty; an exact solver cannot do
that below a feasible node, the two closed half-spaces cover the parent's region).
-/
namespace AV
variable {α : Type}

def PKids.allInf : PKids α → Prop
  | .nil => True
  | .cons none r => PKids.allInf r
  | .cons (some t) r => t.val.state = .infeasible ∧ PKids.allInf r

/-- a single remaining child is marked infeasible -/
def PKids.OneInf (ks : PKids α) : Prop := ks.count = 1 → PKids.allInf ks

def PKids.PairOK : PKids α → Prop
  | .cons none (.cons none .nil) => True
  | .cons (some a) (.cons (some b) .nil) =>
    (a.val.state = .indeterminate ∧ b.val.state = .indeterminate) ∨
    (a.val.state.isFeasible = true ∧ b.val.state.isFeasible = true)
  | _ => False

mutual
/-- nodes marked infeasible are not looked into: the sweep does not visit them -/
def PT.NoSingle : PT α → Prop
  | .node _ _ ks => PKids.OneInf ks ∧ PKids.NoSingle ks
def PKids.NoSingle : PKids α → Prop
  | .nil => True
  | .cons none r => PKids.NoSingle r
  | .cons (some t) r => (t.val.state = .infeasible ∨ PT.NoSingle t) ∧ PKids.NoSingle r
end

mutual
/-- total binary tree whose sibling pairs are both fresh or both cached feasible -/
def PT.TotalUniform : PT α → Prop
  | .node _ _ ks => PKids.PairOK ks ∧ PKids.TotalUniform ks
def PKids.TotalUniform : PKids α → Prop
  | .nil => True
  | .cons none r => PKids.TotalUniform r
  | .cons (some t) r => PT.TotalUniform t ∧ PKids.TotalUniform r
end

theorem PT.noSingle_iff (t : PT α) : PT.NoSingle t ↔ PKids.OneInf t.kids ∧ PKids.NoSingle t.kids := by
  cases t with
  | node i c ks => rfl

theorem PKids.noSingle_set_none (ks : PKids α) (l : Nat) (h : PKids.NoSingle ks) : PKids.NoSingle (ks.set l none) := by
  induction ks using IKids.slots_ind generalizing l with
  | nil => trivial
  | none r ih => cases l with
    | zero => exact h
    | succ l => exact ih l h
  | some t r ih => cases l with
    | zero => exact h.2
    | succ l => exact ⟨h.1, ih l h.2⟩

-- classes as implicit binders: see DESIGN.md §2
variable {_ : Zero α} {_ : One α} {_ : Add α} {_ : Mul α} {_ : Neg α} {_ : Sub α} {_ : LE α} {_ : DecidableLE α}

/-- a child that is not cached infeasible: it is reported as newly infeasible exactly when it ends up marked so, and
    then it was undecided; "was undecided" is the flag that becomes `lastFresh` -/
theorem elimChild_uniform {σ : Type} (tol : α) (O : Oracles σ α) (n : Nat)
    (path : List (Aff α)) (paff : Aff α) (pst : NState α) (ch : PT α) (l : Nat) (s : σ)
    (hch : ch.val.state = .indeterminate ∨ ch.val.state.isFeasible = true) :
    let r := elimChild tol O n path paff pst ch l s
    ((r.2.2.1 = true ∧ r.1.val.state.isInfeasible = true ∧ ch.val.state = .indeterminate) ∨
      (r.2.2.1 = false ∧ r.1.val.state.isInfeasible = false)) ∧
    (r.2.2.2 = true ↔ ch.val.state = .indeterminate) := by
  refine elimChild_elim (motive := fun r => ((r.2.2.1 = true ∧ r.1.val.state.isInfeasible = true ∧
      ch.val.state = .indeterminate) ∨ (r.2.2.1 = false ∧ r.1.val.state.isInfeasible = false)) ∧
      (r.2.2.2 = true ↔ ch.val.state = .indeterminate)) tol O n path paff pst ch l s _ rfl
    (fun hs => ?_) (fun hs hd => ⟨Or.inl ⟨rfl, hd, hs⟩, fun _ => hs, fun _ => rfl⟩) fun st' s' _ hst' hor => ?_
  · rcases hch with h | h <;> rw [hs] at h <;> cases h
  · refine ⟨Or.inr ⟨rfl, elimNode_state tol O n false _ st' ch s' hst'⟩, ?_⟩
    rcases hor with ⟨rfl, hf, rfl⟩ | ⟨hs, _, rfl⟩
    · exact ⟨Bool.noConfusion, fun hs => by rw [hs] at hf; cases hf⟩
    · exact ⟨fun _ => hs, fun _ => rfl⟩

/-- the binary argument. When forwarding does not fire, deferred removal leaves a single child only if that child is
    marked infeasible: a child is removed only if it was undecided, then so was its sibling (`PairOK`) and
    `lastFresh` holds, so `forwardLabel?` found both or neither marked infeasible -/
theorem oneInf_removeLabels {σ : Type} (tol : α) (O : Oracles σ α) (n : Nat) (path : List (Aff α)) (paff : Aff α)
    (pst : NState α) (ks : PKids α) (s : σ) (hpair : PKids.PairOK ks)
    (hno : (elimKids tol O n path paff pst ks 0 s).lastFresh = false ∨
      forwardLabel? (elimKids tol O n path paff pst ks 0 s).kids = none) :
    PKids.OneInf (removeLabels (elimKids tol O n path paff pst ks 0 s).kids
      (elimKids tol O n path paff pst ks 0 s).newInf) := by
  match ks, hpair with
  | .cons none (.cons none .nil), _ => exact fun h => nomatch h
  | .cons (some ka) (.cons (some kb) .nil), hpair =>
    obtain ⟨fa, -⟩ := elimChild_uniform tol O n path paff pst ka 0 s (hpair.imp (·.1) (·.1))
    simp only [elimKids_cons_some, elimKids_nil, IKids.count, Nat.zero_add] at hno ⊢
    generalize elimChild tol O n path paff pst ka 0 s = ca at fa hno ⊢
    obtain ⟨fb, lb⟩ := elimChild_uniform tol O n path paff pst kb 1 ca.2.1 (hpair.imp (·.2) (·.2))
    generalize elimChild tol O n path paff pst kb 1 ca.2.1 = cb at fb lb hno ⊢
    -- an undecided child has an undecided sibling, and the second child being undecided is `lastFresh`
    have hlast : ka.val.state = .indeterminate ∨ kb.val.state = .indeterminate → cb.2.2.2 = true := fun h =>
      lb.2 (hpair.elim (·.2) fun hp => h.elim (fun e => by rw [e] at hp; cases hp.1) (fun e => by rw [e] at hp; cases hp.2))
    rcases fa with ⟨af, ai, ha⟩ | ⟨af, ai⟩ <;> rcases fb with ⟨bf, bi, hb⟩ | ⟨bf, bi⟩ <;>
      simp only [af, bf, if_true, Bool.false_eq_true, if_false, removeLabels, IKids.count, IKids.set, PKids.OneInf]
    · -- both newly marked: the first is removed, the second stays
      exact fun _ => ⟨(NState.isInfeasible_iff _).1 bi, trivial⟩
    · -- only the first newly marked: forwarding fires, which `hno` excludes
      rcases hno with h | h
      · rw [hlast (Or.inl ha)] at h; cases h
      · rw [forwardLabel?, ai, bi] at h; cases h
    · -- only the second
      rcases hno with h | h
      · rw [hlast (Or.inr hb)] at h; cases h
      · rw [forwardLabel?, ai, bi] at h; cases h
    · -- neither: nothing is removed, two children stay
      exact fun h => nomatch h

/-- C06, structural part (`C06_no_single_branch`) -/
theorem noSingle_elim_both {σ : Type} (tol : α) (O : Oracles σ α) (n : Nat) :
    (∀ t : PT α, PT.TotalUniform t → ∀ (isRoot : Bool) (path : List (Aff α)) (st : NState α) (s : σ),
      PKids.NoSingle (elimNode tol O n isRoot path st t s).1.kids ∧
      (isRoot = false → PKids.OneInf (elimNode tol O n isRoot path st t s).1.kids)) ∧
    (∀ ks : PKids α, PKids.TotalUniform ks → ∀ (path : List (Aff α)) (paff : Aff α) (pst : NState α) (l : Nat) (s : σ),
      PKids.NoSingle (elimKids tol O n path paff pst ks l s).kids) := by
  refine ITree.ind ?_ (fun _ _ _ _ _ _ => trivial) (fun r ih hu path paff pst l s => ih hu path paff pst (l+1) s) ?_
  · intro i c ks ih hu isRoot path st s
    have hk := ih hu.2 path c.aff st 0 s
    -- a child forwarded into the node's place is not marked infeasible, so it has been swept
    have fwd : ∀ ch : PT α, ch.val.state = .infeasible ∨ PT.NoSingle ch → ch.val.state.isInfeasible = false →
        PKids.NoSingle ch.kids ∧ (isRoot = false → PKids.OneInf ch.kids) := fun ch h hn =>
      h.elim (fun hi => by rw [hi] at hn; cases hn) fun h => ⟨((PT.noSingle_iff ch).1 h).2, fun _ => ((PT.noSingle_iff ch).1 h).1⟩
    refine elimNode_elim (motive := fun t => PKids.NoSingle t.kids ∧ (isRoot = false → PKids.OneInf t.kids))
      tol O n isRoot path st i c ks s _ rfl (fun ls _ hls =>
        ⟨removeLabels_induct _ _ (fun k l _ _ => PKids.noSingle_set_none k l) hk, fun hr => ?_⟩) fun _ a b hks => ?_
    · rcases hls with ⟨rfl, hno⟩ | ⟨h, _⟩
      · exact oneInf_removeLabels tol O n path c.aff st ks s hu.1 hno
      · rw [hr] at h; cases h
    · rw [hks] at hk
      exact ⟨fun ha _ => fwd a hk.1 ha, fun _ hb => fwd b hk.2.1 hb⟩
  · intro ch r ihch ihr hu path paff pst l s
    rw [elimKids_cons_some]
    refine ⟨?_, ihr hu.2 path paff pst (l+1) _⟩
    refine elimChild_elim (motive := fun c => c.1.val.state = .infeasible ∨ PT.NoSingle c.1) tol O n path paff pst ch l s
      _ rfl Or.inl (fun _ hd => Or.inl ((NState.isInfeasible_iff _).1 hd)) fun st' s' _ _ _ => ?_
    have h := ihch hu.1 false (path ++ [halfspace paff l]) st' s'
    exact Or.inr ((PT.noSingle_iff _).2 ⟨h.2 rfl, h.1⟩)

end AV
