import AffVerif.Model.Tree
/-!
The slot list `IKids` on its own — how `length`, `count`, `allNone`, `get?`, `set`, `existingFrom` and the list
`members` of existing children relate — and induction over a tree together with its slot list. Core Lean only, so that
the traversal proofs (which avoid `Classical.choice`) can use it too.
-/
namespace AV
variable {β : Type}

/-! A fact about trees comes with a companion about slot lists. Where the proof is long, the two are stated as one
conjunction `X_both` (or the companion is the second motive) and proved with `ITree.ind`, and the halves that have a name
are one-line corollaries: compiling the structural recursion of a `mutual` pair over the nested type is slow to check,
and the cost grows with the proof. Short pairs stay `mutual`. For the same reason a fact about slot lists alone is proved
with `IKids.slots_ind`, not by recursion through `match`. -/

/-- the recursor of the nested type, with its `Option` layer folded into the two `cons` cases -/
theorem ITree.ind {P : ITree β → Prop} {Q : IKids β → Prop}
    (node : ∀ i v ks, Q ks → P (.node i v ks))
    (nil : Q .nil) (none : ∀ r, Q r → Q (.cons none r))
    (some : ∀ t r, P t → Q r → Q (.cons (some t) r)) : (∀ t, P t) ∧ (∀ ks, Q ks) :=
  have opt : ∀ k : Option (ITree β), (∀ t, k = Option.some t → P t) → ∀ r, Q r → Q (.cons k r) := fun k hk r hr =>
    match k, hk with
    | .none, _ => none r hr
    | .some t, hk => some t r (hk t rfl) hr
  ⟨fun t => ITree.rec (motive_1 := P) (motive_2 := Q) (motive_3 := fun o => ∀ t, o = Option.some t → P t)
      node nil (fun k r hk hr => opt k hk r hr) (fun _ h => nomatch h) (fun _ ht _ h => Option.some.inj h ▸ ht) t,
   fun ks => IKids.rec (motive_1 := P) (motive_2 := Q) (motive_3 := fun o => ∀ t, o = Option.some t → P t)
      node nil (fun k r hk hr => opt k hk r hr) (fun _ h => nomatch h) (fun _ ht _ h => Option.some.inj h ▸ ht) ks⟩

/-- induction over a tree through its child look-ups, for facts that need no companion about slot lists -/
theorem ITree.ind_get {P : ITree β → Prop} (h : ∀ t, (∀ k c, t.kids.get? k = some c → P c) → P t) : ∀ t, P t := by
  refine (ITree.ind (Q := fun ks => ∀ k c, ks.get? k = some c → P c) (fun i v ks ih => h (.node i v ks) ih)
    (fun _ _ hc => nomatch hc) ?_ ?_).1
  · intro r ih k c hc
    cases k with
    | zero => cases hc
    | succ k => exact ih k c hc
  · intro t r ht ih k c hc
    cases k with
    | zero => cases hc; exact ht
    | succ k => exact ih k c hc

theorem IKids.slots_ind {Q : IKids β → Prop} (nil : Q .nil) (none : ∀ r, Q r → Q (.cons none r))
    (some : ∀ t r, Q r → Q (.cons (some t) r)) (ks : IKids β) : Q ks :=
  (ITree.ind (P := fun _ => True) (fun _ _ _ _ => trivial) nil none (fun t r _ => some t r)).2 ks

theorem IKids.allNone_ind {Q : IKids β → Prop} (nil : Q .nil) (none : ∀ r, Q r → Q (.cons none r)) (ks : IKids β)
    (h : ks.allNone = true) : Q ks := by
  induction ks using IKids.slots_ind with
  | nil => exact nil
  | none r ih => exact none r (ih h)
  | some t r ih => cases h

/-- induction over a slot list that also descends into the slots of each child: for a fact about slot lists whose
    companion about a tree is the fact about the one-slot list holding it -/
theorem IKids.nested_ind {Q : IKids β → Prop} (nil : Q .nil) (none : ∀ r, Q r → Q (.cons none r))
    (some : ∀ i v ks r, Q ks → Q r → Q (.cons (some (.node i v ks)) r)) (ks : IKids β) : Q ks :=
  (ITree.ind (P := fun t => Q t.kids) (fun _ _ _ h => h) nil none
    (fun t r ht hr => match t, ht with | .node i v ks, ht => some i v ks r ht hr)).2 ks

theorem IKids.length_empty (n : Nat) : (IKids.empty n : IKids β).length = n := by
  induction n with
  | zero => rfl
  | succ n ih => simp only [IKids.empty, IKids.length, ih]

theorem IKids.allNone_empty (n : Nat) : (IKids.empty n : IKids β).allNone = true := by
  induction n with
  | zero => rfl
  | succ n ih => simpa only [IKids.empty, IKids.allNone] using ih

theorem IKids.length_set (ks : IKids β) (l : Nat) (o : Option (ITree β)) : (ks.set l o).length = ks.length := by
  induction ks using IKids.slots_ind generalizing l with
  | nil => rfl
  | none r ih | some t r ih => cases l with
    | zero => rfl
    | succ l => exact congrArg (· + 1) (ih l)

theorem IKids.get?_set_none (ks : IKids β) (l j : Nat) :
    (ks.set l none).get? j = if j = l then none else ks.get? j := by
  match ks, l, j with
  | .nil, _, _ => exact (ite_self _).symm
  | .cons k r, 0, 0 => rfl
  | .cons k r, 0, j+1 => exact (if_neg (Nat.succ_ne_zero j)).symm
  | .cons k r, l+1, 0 => exact (if_neg (Nat.succ_ne_zero l).symm).symm
  | .cons k r, l+1, j+1 => exact (IKids.get?_set_none r l j).trans (by simp only [Nat.add_right_cancel_iff]; rfl)

theorem ITree.modifyAt_hit {f : ITree β → ITree β} {j i : Nat} {v : β} {ks : IKids β} (h : j = i) :
    ITree.modifyAt f (.node j v ks) i = f (.node j v ks) := if_pos h

theorem ITree.modifyAt_miss {f : ITree β → ITree β} {j i : Nat} {v : β} {ks : IKids β} (h : ¬ j = i) :
    ITree.modifyAt f (.node j v ks) i = .node j v (ks.modifyAt f i) := if_neg h

theorem IKids.modifyAt_allNone (f : ITree β → ITree β) (ks : IKids β) (i : Nat) :
    (IKids.modifyAt f ks i).allNone = ks.allNone := by
  induction ks using IKids.slots_ind with
  | nil => rfl
  | none r ih => exact ih
  | some t r ih => rfl

theorem IKids.modifyAt_length (f : ITree β → ITree β) (ks : IKids β) (i : Nat) :
    (IKids.modifyAt f ks i).length = ks.length := by
  induction ks using IKids.slots_ind with
  | nil => rfl
  | none r ih => exact congrArg Nat.succ ih
  | some t r ih => exact congrArg Nat.succ ih

theorem IKids.allNone_iff_count (ks : IKids β) : ks.allNone = true ↔ ks.count = 0 := by
  induction ks using IKids.slots_ind with
  | nil => exact ⟨fun _ => rfl, fun _ => rfl⟩
  | none r ih => exact ih
  | some t r ih => exact ⟨fun h => (nomatch h), fun h => (nomatch h)⟩

theorem allNone_eq_of_count_eq (a b : IKids β) (h : a.count = b.count) : a.allNone = b.allNone := by
  rw [Bool.eq_iff_iff, IKids.allNone_iff_count, IKids.allNone_iff_count, h]

theorem allNone_false_of_count (ks : IKids β) (h : 1 ≤ ks.count) : ks.allNone = false := by
  cases hk : ks.allNone with
  | false => rfl
  | true => have := (IKids.allNone_iff_count ks).mp hk; omega

theorem IKids.count_set_none (ks : IKids β) (l : Nat) :
    (ks.set l none).count ≤ ks.count ∧ ks.count ≤ (ks.set l none).count + 1 := by
  induction ks using IKids.slots_ind generalizing l with
  | nil => exact ⟨Nat.le_refl _, Nat.le_succ _⟩
  | none r ih => cases l with
    | zero => exact ⟨Nat.le_refl _, Nat.le_succ _⟩
    | succ l => exact ih l
  | some t r ih => cases l with
    | zero => exact ⟨Nat.le_succ _, Nat.le_refl _⟩
    | succ l => exact ⟨Nat.succ_le_succ (ih l).1, Nat.succ_le_succ (ih l).2⟩

theorem IKids.count_le_length (ks : IKids β) : ks.count ≤ ks.length := by
  induction ks using IKids.slots_ind with
  | nil => exact Nat.le_refl _
  | none r ih => exact Nat.le_succ_of_le ih
  | some t r ih => exact Nat.succ_le_succ ih

theorem IKids.get?_isSome_of_full (ks : IKids β) (h : ks.count = ks.length) (j : Nat) (hj : j < ks.length) :
    (ks.get? j).isSome = true := by
  induction ks using IKids.slots_ind generalizing j with
  | nil => cases hj
  | none r ih => exact absurd (h ▸ IKids.count_le_length r) (Nat.not_succ_le_self _)
  | some t r ih => cases j with
    | zero => rfl
    | succ j => exact ih (Nat.succ.inj h) j (Nat.lt_of_succ_lt_succ hj)

theorem IKids.mem_existingFrom (ks : IKids β) (l j : Nat) (t : ITree β) :
    (j, t) ∈ ks.existingFrom l ↔ ∃ k, j = l + k ∧ ks.get? k = some t := by
  induction ks using IKids.slots_ind generalizing l with
  | nil => exact ⟨fun h => (nomatch h), fun ⟨_, _, h⟩ => (nomatch h)⟩
  | none r ih =>
    rw [← Nat.or_exists_add_one, IKids.existingFrom, ih]
    simp only [Nat.add_assoc, Nat.add_comm 1]
    exact ⟨Or.inr, fun h => h.resolve_left (fun h => nomatch h.2)⟩
  | some t0 r ih =>
    rw [← Nat.or_exists_add_one, IKids.existingFrom, List.mem_cons, ih]
    simp only [Nat.add_assoc, Nat.add_comm 1]
    exact or_congr_left ⟨fun e => ⟨congrArg Prod.fst e, congrArg some (congrArg Prod.snd e).symm⟩,
      fun ⟨e, h⟩ => Prod.ext e (Option.some.inj h).symm⟩

/-- the existing children in label order; the model's `childList` is this list (`IKids.childList_eq_members`) -/
def IKids.members : IKids β → List (ITree β)
  | .nil => []
  | .cons none r => r.members
  | .cons (some t) r => t :: r.members

theorem IKids.existingFrom_map_snd (ks : IKids β) (l : Nat) : (ks.existingFrom l).map (·.2) = ks.members := by
  induction ks using IKids.slots_ind generalizing l with
  | nil => rfl
  | none r ih => exact ih _
  | some t r ih => exact congrArg (t :: ·) (ih _)

theorem IKids.mem_members (ks : IKids β) (c : ITree β) : c ∈ ks.members ↔ ∃ l, ks.get? l = some c := by
  rw [← ks.existingFrom_map_snd 0, List.mem_map]
  exact ⟨fun ⟨(j, _), h, e⟩ => e ▸ ((ks.mem_existingFrom 0 j _).mp h).imp fun _ h => h.2,
    fun ⟨l, h⟩ => ⟨(0 + l, c), (ks.mem_existingFrom 0 _ c).mpr ⟨l, rfl, h⟩, rfl⟩⟩

theorem IKids.length_members (ks : IKids β) : ks.members.length = ks.count := by
  induction ks using IKids.slots_ind with
  | nil => rfl
  | none r ih => exact ih
  | some t r ih => exact congrArg (· + 1) ih

end AV
