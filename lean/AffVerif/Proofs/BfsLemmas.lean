import AffVerif.Proofs.IterLemmas
/-!
The breadth-first machine emits the level-order reference list, for every skip schedule (repeated skips included):
the queue is always "rest of the current level ++ the part of the next level generated so far".
-/
namespace AV
variable {β : Type}

def qOf (d : Nat) (l : List (ITree β × Nat)) : List (Nat × ITree β × Nat) := l.map (fun tr => (d, tr.1, tr.2))

def itemsOf (d : Nat) (l : List (ITree β × Nat)) : List Item := l.map (fun tr => ⟨d, tr.1.idx, tr.2⟩)

def forestSize (l : List (ITree β × Nat)) : Nat := stackSize (qOf 0 l)

abbrev kidsOf (t : ITree β) : List (ITree β × Nat) := (entries 0 t.kids.childList).map (fun e => (e.2.1, e.2.2))

theorem entries_eq_qOf (d : Nat) (cs : List (ITree β)) :
    entries d cs = qOf d ((entries 0 cs).map (fun e => (e.2.1, e.2.2))) := by
  induction cs with
  | nil => rfl
  | cons c cs ih => rw [entries, ih]; rfl

theorem forestSize_children (t : ITree β) : forestSize (kidsOf t) + 1 = t.size := by
  rw [forestSize, ← entries_eq_qOf, stackSize_entries]; exact t.size_eq.symm

theorem forestSize_append (a b : List (ITree β × Nat)) : forestSize (a ++ b) = forestSize a + forestSize b := by
  rw [forestSize, qOf, List.map_append, stackSize_append]; rfl

theorem forestSize_nextLevel (sk : Nat → Nat) (level : List (ITree β × Nat)) (k : Nat) :
    forestSize (nextLevel sk level k) + level.length ≤ forestSize level := by
  induction level generalizing k with
  | nil => exact Nat.le_refl 0
  | cons tr rest ih =>
    -- a member of the level is replaced by its children, which hold one node less, or by nothing
    have h1 : forestSize (if sk k ≠ 0 then [] else kidsOf tr.1) + 1 ≤ tr.1.size := by
      split
      · exact tr.1.size_pos
      · exact Nat.le_of_eq (forestSize_children tr.1)
    show forestSize (_ ++ nextLevel sk rest (k+1)) + (rest.length + 1) ≤ tr.1.size + forestSize rest
    rw [forestSize_append, Nat.add_comm rest.length, Nat.add_add_add_comm]
    exact Nat.add_le_add h1 (ih (k+1))

theorem BfsM.skip_skip (s : BfsM β) : s.skip.skip = s.skip := by
  simp only [BfsM.skip, Nat.sub_zero, List.take_length]

theorem BfsM.skipN_succ (n : Nat) (s : BfsM β) : BfsM.skipN (n+1) s = s.skip := by
  induction n generalizing s with
  | zero => rfl
  | succ n ih => rw [BfsM.skipN, ih, BfsM.skip_skip]

theorem BfsM.round (sk : Nat → Nat) (f k : Nat) (s : BfsM β) (d : Nat) (t : ITree β) (r : Nat) (Q : List (Nat × ITree β × Nat))
    (hs : s.queue = (d, t, r) :: Q) :
    ∃ s', s'.queue = Q ++ qOf (d+1) (if sk k ≠ 0 then [] else kidsOf t) ∧
      (BfsM.run sk (f+1) s k).map (·.1) = ⟨d, t.idx, r⟩ :: (BfsM.run sk f s' (k+1)).map (·.1) := by
  obtain ⟨q, lp, lb, ub⟩ := s
  cases hs
  refine ⟨BfsM.skipN (sk k) ⟨Q ++ entries (d+1) t.kids.childList, t.kids.childList.length, lb - 1, ub - 1⟩, ?_, rfl⟩
  cases sk k with
  | zero => exact congrArg (Q ++ ·) (entries_eq_qOf (d+1) _)
  | succ m =>
    rw [BfsM.skipN_succ, BfsM.skip, if_pos (Nat.succ_ne_zero m)]
    simp only [List.length_append, entries_length, Nat.add_sub_cancel, List.take_left']
    exact (List.append_nil Q).symm

/-- one level: with enough fuel the machine emits the rest `cur` of the current level and is left with the next level -/
theorem bfs_level (sk : Nat → Nat) (d : Nat) (cur acc : List (ITree β × Nat)) (fuel k : Nat) (s : BfsM β)
    (hs : s.queue = qOf d cur ++ qOf (d+1) acc) (hf : cur.length ≤ fuel) :
    ∃ s', s'.queue = qOf (d+1) (acc ++ nextLevel sk cur k) ∧
      (BfsM.run sk fuel s k).map (·.1) =
        itemsOf d cur ++ (BfsM.run sk (fuel - cur.length) s' (k + cur.length)).map (·.1) := by
  induction cur generalizing acc fuel k s with
  | nil => exact ⟨s, by rw [hs, nextLevel, List.append_nil]; rfl, rfl⟩
  | cons tr rest ih =>
    cases fuel with
    | zero => cases hf
    | succ fuel =>
      obtain ⟨s1, hq, hrun⟩ := BfsM.round sk fuel k s d tr.1 tr.2 (qOf d rest ++ qOf (d+1) acc) hs
      obtain ⟨s', hq', hrun'⟩ := ih (acc ++ (if sk k ≠ 0 then [] else kidsOf tr.1)) fuel (k+1) s1
        (by rw [hq, List.append_assoc]; exact congrArg (qOf d rest ++ ·) List.map_append.symm)
        (Nat.le_of_succ_le_succ hf)
      refine ⟨s', by rw [hq', nextLevel, List.append_assoc], ?_⟩
      rw [hrun, hrun', List.length_cons, Nat.succ_sub_succ, Nat.add_right_comm k 1, ← Nat.add_assoc]
      rfl

theorem bfs_run_eq_ref (sk : Nat → Nat) (L : Nat) :
    ∀ (d : Nat) (level : List (ITree β × Nat)) (fuel k : Nat) (s : BfsM β), s.queue = qOf d level →
      forestSize level ≤ fuel → forestSize level + 1 ≤ L →
      (BfsM.run sk fuel s k).map (·.1) = refBfsLevels sk L d level k := by
  induction L with
  | zero => intro d level fuel k s _ _ hL; cases hL
  | succ L ih =>
    intro d level fuel k s hs hf hL
    cases level with
    | nil =>
      obtain ⟨q, lp, lb, ub⟩ := s
      cases hs
      cases fuel <;> rfl
    | cons tr rest =>
      have hnext : forestSize (nextLevel sk (tr :: rest) k) + (tr :: rest).length ≤ fuel :=
        Nat.le_trans (forestSize_nextLevel sk (tr :: rest) k) hf
      obtain ⟨s', hq, hrun⟩ := bfs_level sk d (tr :: rest) [] fuel k s (by rw [hs]; exact (List.append_nil _).symm)
        (Nat.le_trans (Nat.le_add_left _ _) hnext)
      rw [hrun, refBfsLevels, if_neg (by simp),
        ih (d+1) (nextLevel sk (tr :: rest) k) _ _ s' hq (Nat.le_sub_of_add_le hnext)
          (Nat.le_trans (Nat.add_le_add_left (Nat.le_add_left 1 rest.length) _)
            (Nat.le_trans (forestSize_nextLevel sk (tr :: rest) k) (Nat.le_of_succ_le_succ hL)))]
      rfl

/-- size-hint invariant of `Bfs` (queue of sub-trees; the queue has the element type of the DFS stack) -/
def BfsM.Inv (s : BfsM β) : Prop :=
  s.lb ≤ stackSize s.queue ∧ stackSize s.queue ≤ s.ub ∧ s.lastPush ≤ s.queue.length

theorem BfsM.inv_new (whole start : ITree β) (hsub : start.size ≤ whole.size)
    (hroot : start.idx = whole.idx → start.size = whole.size) : (BfsM.new whole start).Inv :=
  Dfs.inv_new whole start hsub hroot

theorem BfsM.inv_next (s s' : BfsM β) (it : Item) (h : s.Inv) (hn : s.next = some (it, s')) : s'.Inv := by
  obtain ⟨S, lp, lb, ub⟩ := s
  cases S with
  | nil => cases hn
  | cons e rest =>
    obtain ⟨d, t, r⟩ := e
    cases hn
    obtain ⟨h1, h2, _⟩ := h
    rw [stackSize_round d (d+1) t r rest, stackSize_append, Nat.add_comm _ (stackSize rest), ← stackSize_append] at h1 h2
    refine ⟨Nat.sub_le_of_le_add h1, Nat.le_sub_of_add_le h2, ?_⟩
    exact Nat.le_trans (Nat.le_of_eq (entries_length _ _).symm) (List.length_append ▸ Nat.le_add_left _ _)

theorem BfsM.inv_skip (s : BfsM β) (h : s.Inv) : s.skip.Inv := by
  obtain ⟨_, h2, h3⟩ := h
  -- each of the `lastPush` entries dropped from the back holds at least one node
  have h5 := stackSize_ge_length (s.queue.drop (s.queue.length - s.lastPush))
  rw [List.length_drop, Nat.sub_sub_self h3] at h5
  rw [stackSize_take_drop s.queue (s.queue.length - s.lastPush)] at h2
  exact ⟨stackSize_ge_length _, Nat.le_sub_of_add_le (Nat.le_trans (Nat.add_le_add_left h5 _) h2), Nat.zero_le _⟩

end AV
