import AffVerif.Proofs.PolyLemmas
import AffVerif.Check.Cert
/-! Soundness of the certificate checkers: weak duality (`comb_le`) for the two multiplier checks, a ray for unboundedness. -/
set_option linter.unusedSectionVars false
namespace AV

section Structure
-- classes as implicit binders: see DESIGN.md §2
variable {α : Type} {_ : Zero α} {_ : Add α} {_ : Mul α} {_ : LE α} {_ : LT α} {_ : DecidableLT α}

theorem combVec_cons (n : Nat) (y : α) (ys : List α) (r : Row α) (rs : List (Row α)) :
    combVec n (y :: ys) (r :: rs) = vadd (smul y r.a) (combVec n ys rs) := rfl
theorem combRhs_cons (y : α) (ys : List α) (r : Row α) (rs : List (Row α)) :
    combRhs (y :: ys) (r :: rs) = y * r.b + combRhs ys rs := rfl
theorem strictUsed_cons (y : α) (ys : List α) (r : Row α) (rs : List (Row α)) :
    strictUsed (y :: ys) (r :: rs) = ((r.strict && decide (0 < y)) || strictUsed ys rs) := rfl

theorem combVec_length (n : Nat) (y : List α) (rows : List (Row α)) (h : ∀ r ∈ rows, r.a.length = n) :
    (combVec n y rows).length = n := by
  induction y generalizing rows with
  | nil => exact zeros_length n
  | cons c cs ih =>
    cases rows with
    | nil => exact zeros_length n
    | cons r rs =>
      rw [List.forall_mem_cons] at h
      rw [combVec_cons, vadd_length, smul_length, ih rs h.2, h.1, Nat.min_self]

theorem Row.sat.lt {r : Row α} {x : List α} (h : r.sat x) (hs : r.strict = true) : dot r.a x < r.b := by
  rwa [Row.sat, if_pos hs] at h

theorem sat_polyRows (p : Aff α) (x : List α) : Sat (polyRows p) x ↔ Poly.Mem p x := by
  unfold Sat polyRows Poly.Mem
  rw [List.forall_mem_map]
  rfl

end Structure

variable {α : Type} [Field α] [LinearOrder α] [IsStrictOrderedRing α]

theorem Row.sat.le {r : Row α} {x : List α} (h : r.sat x) : dot r.a x ≤ r.b := by
  unfold Row.sat at h
  split at h
  · exact h.le
  · exact h

/-- one step of a non-negative combination: `c` times `a ≤ b` added to `D ≤ R`, strict as soon as one part is -/
theorem mul_add_le_mul_add {c a b D R : α} (hc : 0 ≤ c) (hab : a ≤ b) (hDR : D ≤ R) :
    c * a + D ≤ c * b + R ∧ ((0 < c ∧ a < b) ∨ D < R → c * a + D < c * b + R) := by
  have h1 := mul_le_mul_of_nonneg_left hab hc
  refine ⟨add_le_add h1 hDR, ?_⟩
  rintro (⟨hpos, hlt⟩ | h)
  · exact add_lt_add_of_lt_of_le (mul_lt_mul_of_pos_left hlt hpos) hDR
  · exact add_lt_add_of_le_of_lt h1 h

theorem comb_le (n : Nat) (y : List α) (rows : List (Row α)) (x : List α)
    (hy : ∀ c ∈ y, 0 ≤ c) (hn : ∀ r ∈ rows, r.a.length = n) (hs : Sat rows x) :
    dot (combVec n y rows) x ≤ combRhs y rows ∧
    (strictUsed y rows = true → dot (combVec n y rows) x < combRhs y rows) := by
  induction y generalizing rows with
  | nil => exact ⟨(dot_zeros_left n x).le, fun h => absurd h Bool.false_ne_true⟩
  | cons c cs ih =>
    cases rows with
    | nil => exact ⟨(dot_zeros_left n x).le, fun h => absurd h Bool.false_ne_true⟩
    | cons r rs =>
      rw [List.forall_mem_cons] at hy hn
      obtain ⟨hr, hrs⟩ := List.forall_mem_cons.mp hs
      obtain ⟨ih1, ih2⟩ := ih rs hy.2 hn.2 hrs
      rw [combVec_cons, combRhs_cons, strictUsed_cons, dot_vadd_left _ _ _ (by rw [smul_length, combVec_length n cs rs hn.2, hn.1]),
        dot_smul_left]
      refine (mul_add_le_mul_add hy.1 hr.le ih1).imp_right fun hlt hu => hlt ?_
      rw [Bool.or_eq_true, Bool.and_eq_true, decide_eq_true_eq] at hu
      exact hu.imp (fun ⟨hst, hpos⟩ => ⟨hpos, hr.lt hst⟩) ih2

theorem checkInfeasible_sound (n : Nat) (rows : List (Row α)) (y : List α)
    (h : checkInfeasible n rows y = true) : ¬ ∃ x, Sat rows x := by
  rintro ⟨x, hx⟩
  simp only [checkInfeasible, Bool.and_eq_true, Bool.or_eq_true, OF.beq_iff_eq, List.all_eq_true,
    decide_eq_true_eq] at h
  obtain ⟨⟨⟨⟨_, hy⟩, hn⟩, hz⟩, hrhs⟩ := h
  obtain ⟨h1, h2⟩ := comb_le n y rows x hy hn hx
  rw [dot_all_zero _ x hz] at h1 h2
  rcases hrhs with hlt | ⟨hle, hu⟩
  · exact absurd h1 (not_le.mpr hlt)
  · exact absurd (h2 hu) (not_lt.mpr hle)

theorem checkOptimal_sound (n : Nat) (p : Aff α) (c x : List α) (v : α) (y : List α)
    (h : checkOptimal n p c x v y = true) :
    Poly.Mem p x ∧ dot c x = v ∧ ∀ z, Poly.Mem p z → v ≤ dot c z := by
  simp only [checkOptimal, Bool.and_eq_true, OF.beq_iff_eq, beq_iff_eq, List.all_eq_true, decide_eq_true_eq] at h
  obtain ⟨⟨⟨⟨⟨⟨⟨hmem, hval⟩, _⟩, _⟩, hy⟩, hn⟩, hvec⟩, hrhs⟩ := h
  refine ⟨(Poly.memb_iff p x).mp hmem, hval, fun z hz => ?_⟩
  have := (comb_le n y (polyRows p) z hy hn ((sat_polyRows p z).mpr hz)).1
  rwa [hvec, hrhs, dot_vneg_left, OF.neg_le_neg_iff] at this

theorem exists_nonneg_add_mul_lt (v e M : α) (he : e < 0) : ∃ t, 0 ≤ t ∧ v + t * e < M := by
  refine ⟨max 0 ((M - v) / e + 1), le_max_left _ _, ?_⟩
  have h : (M - v) / e < max 0 ((M - v) / e + 1) := lt_of_lt_of_le (lt_add_one _) (le_max_right _ _)
  exact lt_sub_iff_add_lt'.mp ((div_lt_iff_of_neg he).mp h)

theorem checkUnbounded_sound (n : Nat) (p : Aff α) (c x d : List α)
    (h : checkUnbounded n p c x d = true) (M : α) : ∃ z, Poly.Mem p z ∧ dot c z < M := by
  simp only [checkUnbounded, Bool.and_eq_true, beq_iff_eq, List.all_eq_true, decide_eq_true_eq] at h
  obtain ⟨⟨⟨⟨⟨hmem, hxl⟩, hdl⟩, _⟩, hrows⟩, hneg⟩ := h
  have hxd : x.length = d.length := hxl.trans hdl.symm
  -- the point `x + t·d`: no row grows along `d`, and the objective falls strictly
  obtain ⟨t, ht0, htM⟩ := exists_nonneg_add_mul_lt (dot c x) (dot c d) M hneg
  refine ⟨vadd x (smul t d), fun rb hrb => ?_, by rwa [dot_vadd_smul _ _ _ _ hxd]⟩
  rw [dot_vadd_smul _ _ _ _ hxd, add_comm]
  exact (mul_add_le_mul_add ht0 (hrows rb hrb).2 ((Poly.memb_iff p x).mp hmem rb hrb)).1.trans_eq
    (by rw [mul_zero, zero_add])

end AV
