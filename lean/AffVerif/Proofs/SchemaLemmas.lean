import AffVerif.Proofs.PolyLemmas
import AffVerif.Model.Schema
import AffVerif.Model.Spec
/-!
Semantics of the pieces the schema trees are built from: the leaf maps (all of them `Sch.scaleShift` up to rewriting),
the decision on one row, which is an if-then-else on the row inequality (`eval_dec_oneRow`, `eval_dec_axis`), and chains
of such decisions (`from_poly`, `class_characterization`, `inf_norm`): a chain is an iterated if-then-else on its rows
(`eval_chainLink`), so its value is the `final1` map where every row holds and the false leaf (if any) elsewhere
(`eval_chain`).
-/
set_option linter.unusedSectionVars false
namespace AV
section Structure
-- classes as implicit binders: see DESIGN.md §2
variable {α : Type} {_ : Zero α} {_ : Add α} {_ : Mul α} {_ : Sub α} {_ : LE α} {_ : DecidableLE α}

theorem eval_leaf (i : Nat) (a : Aff α) (x : List α) : PT.eval (Sch.leaf i a) x = some (a.apply x) := rfl

def OneRow (a : Aff α) : Prop := ∃ r b n, a = ⟨[r], [b], n⟩

theorem memb_singleton (r : List α) (b : α) (n : Nat) (x : List α) :
    Poly.memb ⟨[r], [b], n⟩ x = decide (dot r x ≤ b) := Bool.and_true _

/-- a chain node is a decision between the false leaf (if any) and the rest of the chain; the indices below stay
    existential: evaluation does not see them -/
theorem chainNode_eq (fl : Option (Aff α)) (f1 : Aff α) (idx : Nat) (row : Aff α) (rows : List (Aff α)) (c : Nat) :
    ∃ i' c' : Nat, Sch.chainNode fl f1 idx row rows c = Sch.dec idx row (fl.map (Sch.leaf c))
      (some (match rows with
        | [] => Sch.leaf i' f1
        | r :: rs => Sch.chainNode fl f1 i' r rs c')) := by
  cases rows with
  | nil => cases fl <;> exact ⟨_, 0, rfl⟩
  | cons r rs => cases fl <;> exact ⟨_, _, rfl⟩

end Structure

variable {α : Type} [Field α] [LinearOrder α] [IsStrictOrderedRing α]

theorem apply_scaleShift (n r : Nat) (s o : α) (x : List α) (hx : x.length = n) :
    (Sch.scaleShift n r s o : Aff α).apply x = x.set r (s * x.getD r 0 + o) := by
  subst hx
  refine (apply_coord x.length (fun k => if k = r then s else 1) (fun j => if j = r then o else 0) x).trans ?_
  rw [← range_map_set]
  refine List.map_congr_left fun k _ => ?_
  by_cases h : k = r
  · rw [if_pos h, if_pos h, if_pos h, h]
  · rw [if_neg h, if_neg h, if_neg h, one_mul, add_zero]

theorem apply_setConst (n r : Nat) (v : α) (x : List α) (hx : x.length = n) :
    (Sch.setConst n r v : Aff α).apply x = x.set r v := by
  rw [show (Sch.setConst n r v : Aff α) = Sch.scaleShift n r 0 v from rfl, apply_scaleShift n r 0 v x hx, zero_mul,
    zero_add]

theorem apply_diagIdx (n i : Nat) (c : α) (x : List α) (hx : x.length = n) :
    (Aff.diagIdx n i c : Aff α).apply x = x.set i (c * x.getD i 0) := by
  rw [← add_zero (c * _), ← apply_scaleShift n i c 0 x hx, Sch.scaleShift, unitVec_zero]; rfl

theorem dot_subtraction_row (n l r : Nat) (x : List α) (hl : l < n) (hr : r < n) (hlr : l ≠ r) :
    dot ((List.range n).map (fun j => if j = r then (-1 : α) else if j = l then 1 else 0)) x =
      x.getD l 0 - x.getD r 0 := by
  rw [dot_range_map_ite, if_neg hlr.symm, sub_zero, ← unitVec, dot_unitVec_lt hl, dot_unitVec_lt hr, one_mul,
    OF.neg_one_mul, sub_eq_add_neg]

/-- a decision on one row is an if-then-else on the row inequality: `≤` routes to label 1 -/
theorem eval_dec_oneRow (i : Nat) (r : List α) (b : α) (n : Nat) (l0 : Option (PT α)) (t1 : PT α) (x : List α) :
    PT.eval (Sch.dec i ⟨[r], [b], n⟩ l0 (some t1)) x =
      if dot r x ≤ b then PT.eval t1 x else l0.bind (fun t => PT.eval t x) := by
  -- slot 1 is occupied, so the node is a decision; its label is the row's
  refine (if_neg (by cases l0 <;> exact Bool.false_ne_true)).trans ?_
  refine (congrArg (PKids.evalAt _ · x) (label_oneRow r b n x)).trans ?_
  split <;> cases l0 <;> rfl

theorem eval_dec_axis (i n r : Nat) (c b : α) (t0 t1 : PT α) (x : List α) (hr : r < n) :
    PT.eval (Sch.dec i (Sch.axisPred n r c b) (some t0) (some t1)) x =
      if c * x.getD r 0 ≤ b then PT.eval t1 x else PT.eval t0 x := by
  unfold Sch.axisPred
  rw [eval_dec_oneRow, dot_unitVec_lt hr]
  rfl

/-- one link of a chain: where the row holds go on, elsewhere the false leaf (if any) -/
theorem eval_chainLink (fl : Option (Aff α)) (c i : Nat) (row : Aff α) (t : PT α) (x : List α) (h : OneRow row) :
    PT.eval (Sch.dec i row (fl.map (Sch.leaf c)) (some t)) x =
      if Poly.memb row x then PT.eval t x else fl.map (·.apply x) := by
  obtain ⟨r, b, n, rfl⟩ := h
  rw [eval_dec_oneRow, memb_singleton]
  cases fl <;> exact if_congr decide_eq_true_iff.symm rfl rfl

/-- `from_poly`, `class_characterization` and `inf_norm` build this tree from their rows (at `i = 0`, `c = 1`): an
    iterated if-then-else on the rows -/
theorem eval_chain (fl : Option (Aff α)) (f1 : Aff α) (rows : List (Aff α)) (i c : Nat) (x : List α)
    (hr : ∀ r ∈ rows, OneRow r) :
    PT.eval (match rows with
      | [] => Sch.leaf i f1
      | r :: rs => Sch.chainNode fl f1 i r rs c) x =
      if rows.all (fun a => Poly.memb a x) then some (f1.apply x) else fl.map (·.apply x) := by
  induction rows generalizing i c with
  | nil => rfl
  | cons r rs ih =>
    rw [List.forall_mem_cons] at hr
    obtain ⟨i', c', e⟩ := chainNode_eq fl f1 i r rs c
    show PT.eval (Sch.chainNode fl f1 i r rs c) x = _
    rw [e, eval_chainLink fl c i r _ x hr.1, ih i' c' hr.2, List.all_cons]
    cases Poly.memb r x <;> rfl

end AV
