import AffVerif.Proofs.ComposeLaw
import AffVerif.Model.Schema
/-! Shapes of the schema building blocks and of the activation trees; a shaped tree returns vectors of the terminal
dimension (C01, C04). -/
namespace AV
-- classes as implicit binders: see DESIGN.md §2
variable {α : Type} {_ : Zero α} {_ : One α} {_ : Neg α}

def Aff.Maps (a : Aff α) (n m : Nat) : Prop := a.WF ∧ a.indim = n ∧ a.outdim = m

theorem axisPred_ok (n r : Nat) (c b : α) : (Sch.axisPred n r c b).Maps n 1 :=
  ⟨⟨fun _ h => List.mem_singleton.1 h ▸ unitVec_length n r c, rfl⟩, rfl, rfl⟩

theorem square_ok (n : Nat) (d : Nat → α) (b : List α) (hb : b.length = n) :
    (⟨(List.range n).map (fun k => unitVec n k (d k)), b, n⟩ : Aff α).Maps n n := by
  refine ⟨⟨fun r hr => ?_, hb.trans ((List.length_map _).trans List.length_range).symm⟩, rfl,
    (List.length_map _).trans List.length_range⟩
  obtain ⟨k, _, rfl⟩ := List.mem_map.1 hr
  exact unitVec_length n k _

theorem identity_ok (n : Nat) : (Aff.identity n : Aff α).Maps n n :=
  square_ok n (fun _ => 1) (zeros n) List.length_replicate

theorem diagIdx_ok (n i : Nat) (c : α) : (Aff.diagIdx n i c).Maps n n :=
  square_ok n (fun k => if k = i then c else 1) (zeros n) List.length_replicate

theorem setConst_ok (n r : Nat) (v : α) : (Sch.setConst n r v).Maps n n :=
  square_ok n (fun k => if k = r then 0 else 1) (unitVec n r v) (unitVec_length n r v)

theorem scaleShift_ok (n r : Nat) (s o : α) : (Sch.scaleShift n r s o).Maps n n :=
  square_ok n (fun k => if k = r then s else 1) (unitVec n r o) (unitVec_length n r o)

theorem slice_ok (ref : List (Option α)) : (Aff.slice ref).Maps ref.length ref.length :=
  slice_eq_coord ref ▸ square_ok ref.length _ _ ((List.length_map _).trans List.length_range)

theorem shaped_leaf (i n m : Nat) (a : Aff α) (h : a.Maps n m) : PT.Shaped 2 n m (Sch.leaf i a) :=
  ⟨h.1, h.2.1, rfl, fun _ => h.2.2, Bool.noConfusion, trivial⟩

theorem shaped_dec (i n m : Nat) (a : Aff α) (l0 l1 : PT α) (h : a.Maps n 1)
    (h0 : PT.Shaped 2 n m l0) (h1 : PT.Shaped 2 n m l1) : PT.Shaped 2 n m (Sch.dec i a (some l0) (some l1)) :=
  ⟨h.1, h.2.1, rfl, Bool.noConfusion, fun _ => h.2.2 ▸ Nat.le_refl 2, h0, h1, trivial⟩

/-- `Aff.unit n r` is the predicate `1·x_r ≤ 0` -/
theorem shaped_leaky (n r : Nat) (a : α) : PT.Shaped 2 n n (Sch.partialLeakyReLU n r a : PT α) :=
  shaped_dec 0 n n _ _ _ (axisPred_ok n r 1 0) (shaped_leaf 1 n n _ (identity_ok n)) (shaped_leaf 2 n n _ (diagIdx_ok n r a))

theorem shaped_relu (n r : Nat) : PT.Shaped 2 n n (Sch.partialReLU n r : PT α) := shaped_leaky n r 0

theorem shaped_hardTanh (n r : Nat) (lo hi : α) : PT.Shaped 2 n n (Sch.partialHardTanh n r lo hi : PT α) :=
  shaped_dec 0 n n _ _ _ (axisPred_ok n r _ _)
    (shaped_dec 1 n n _ _ _ (axisPred_ok n r _ _) (shaped_leaf 3 n n _ (identity_ok n)) (shaped_leaf 4 n n _ (setConst_ok n r lo)))
    (shaped_leaf 2 n n _ (setConst_ok n r hi))

theorem shaped_hardSigmoid (n r : Nat) (three sixth half : α) :
    PT.Shaped 2 n n (Sch.partialHardSigmoid n r three sixth half : PT α) :=
  shaped_dec 0 n n _ _ _ (axisPred_ok n r _ _)
    (shaped_dec 1 n n _ _ _ (axisPred_ok n r _ _) (shaped_leaf 3 n n _ (scaleShift_ok n r sixth half))
      (shaped_leaf 4 n n _ (setConst_ok n r 0)))
    (shaped_leaf 2 n n _ (setConst_ok n r 1))

variable {_ : Add α} {_ : Mul α} {_ : Sub α} {_ : LE α} {_ : DecidableLE α}

theorem eval_length (t : PT α) (K n m : Nat) (x y : List α) (ht : PT.Shaped K n m t) (h : PT.eval t x = some y) :
    y.length = m := by
  rw [PT.eval_eq_leafAt] at h
  cases hu : PT.leafAt t x with
  | none => rw [hu] at h; cases h
  | some u =>
    rw [hu] at h
    cases h
    obtain ⟨hwf, hout⟩ := (leafAt_shaped_both K n m x u).1 t ht hu
    exact ((vadd_length _ _).trans (by rw [matVec_length, hwf.2, Nat.min_self])).trans hout

end AV
