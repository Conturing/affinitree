import AffVerif.Proofs.ElimSound
import AffVerif.Proofs.Fresh
import AffVerif.Proofs.ReduceLemmas
/-!
A structural invariant of the cached states: a node marked `Infeasible` has no sibling. The sweep removes every child it
finds infeasible unless it is the last one, compositions copy operand nodes as `Indeterminate`, and `reduce` only
replaces a decision by one of two children. It is what makes `reduce` keep the infeasible clause of C05: the label-0
child that replaces its parent is never marked infeasible.
-/
set_option linter.unusedSectionVars false
namespace AV
variable {α : Type}

def PKids.noInf : PKids α → Prop
  | .nil => True
  | .cons none r => PKids.noInf r
  | .cons (some t) r => t.val.state ≠ .infeasible ∧ PKids.noInf r

mutual
/-- a node marked `Infeasible` has no sibling -/
def PT.InfOnly : PT α → Prop
  | .node _ _ ks => (2 ≤ ks.count → PKids.noInf ks) ∧ PKids.InfOnly ks
def PKids.InfOnly : PKids α → Prop
  | .nil => True
  | .cons none r => PKids.InfOnly r
  | .cons (some t) r => PT.InfOnly t ∧ PKids.InfOnly r
end

theorem PKids.noInf_of_fresh (ks : PKids α) (h : PKids.Fresh ks) : PKids.noInf ks := by
  induction ks using IKids.slots_ind with
  | nil => trivial
  | none r ih => exact ih h
  | some t r ih => cases t with | node _ _ _ => exact ⟨fun e => (by cases h.1.1.symm.trans e), ih h.2⟩

theorem PKids.infOnly_of_fresh (ks : PKids α) (h : PKids.Fresh ks) : PKids.InfOnly ks := by
  induction ks using IKids.nested_ind with
  | nil => trivial
  | none r ih => exact ih h
  | some i c ks r ihk ih => exact ⟨⟨fun _ => PKids.noInf_of_fresh ks h.1.2, ihk h.1.2⟩, ih h.2⟩

theorem PT.infOnly_of_fresh (t : PT α) (h : PT.Fresh t) : PT.InfOnly t :=
  (PKids.infOnly_of_fresh (.cons (some t) .nil) ⟨h, trivial⟩).1

/-- what an operation that rebuilds the slot list `ks` into `ks'` owes the node above: as many children as before, none
    newly marked infeasible, the invariant below -/
structure PKids.InfOnlyKept (ks ks' : PKids α) : Prop where
  count : ks'.count = ks.count
  noInf : PKids.noInf ks → PKids.noInf ks'
  infOnly : PKids.InfOnly ks → PKids.InfOnly ks'

theorem PT.infOnly_regrown {i : Nat} {c : Content α} {ks ks' : PKids α} {t' : PT α} (hr : PT.Regrown i c ks' t')
    (hk : PKids.InfOnlyKept ks ks') (h : PT.InfOnly (.node i c ks)) : PT.InfOnly t' := by
  cases hr with
  | kept => exact ⟨fun h2 => hk.noInf (h.1 (hk.count ▸ h2)), hk.infOnly h.2⟩
  | reused a kids hf => exact ⟨fun _ => PKids.noInf_of_fresh kids hf, PKids.infOnly_of_fresh kids hf⟩
  | fresh hf => exact PT.infOnly_of_fresh t' hf

theorem PKids.infOnlyKept_regrown {ks ks' : PKids α} (hr : PKids.Regrown ks ks') : PKids.InfOnlyKept ks ks' := by
  induction hr with
  | nil => exact ⟨rfl, id, id⟩
  | none _ ih => exact ⟨ih.count, ih.noInf, ih.infOnly⟩
  | some ht _ _ ihk ih =>
    exact ⟨congrArg Nat.succ ih.count, fun h => ⟨ht.state_ne_inf h.1, ih.noInf h.2⟩,
      fun h => ⟨PT.infOnly_regrown ht ihk h.1, ih.infOnly h.2⟩⟩

theorem NState.plant_inf (pts : List (List α)) (st : NState α) : st.plant pts = .infeasible ↔ st = .infeasible := by
  -- only a witness list is changed by `plant`, and it stays a witness list
  cases st with
  | witness _ => exact ⟨fun h => (nomatch h), fun h => (nomatch h)⟩
  | _ => exact Iff.rfl

theorem PT.plant_val_inf (pts : List (List α)) (t : PT α) (i : Nat)
    (h : (ITree.modifyAt (PT.plantFn pts) t i).val.state = .infeasible) : t.val.state = .infeasible := by
  match t with
  | .node j c ks =>
    by_cases hj : j = i
    · rw [ITree.modifyAt_hit hj] at h
      exact (NState.plant_inf pts c.state).1 h
    · rw [ITree.modifyAt_miss hj] at h
      exact h

theorem PKids.infOnlyKept_plant (pts : List (List α)) (ks : PKids α) (i : Nat) :
    PKids.InfOnlyKept ks (IKids.modifyAt (PT.plantFn pts) ks i) := by
  induction ks using IKids.nested_ind with
  | nil => exact ⟨rfl, id, id⟩
  | none r ih => exact ⟨ih.count, ih.noInf, ih.infOnly⟩
  | some j c ks r ihk ih =>
    refine ⟨congrArg Nat.succ ih.count, fun h => ⟨fun hi => h.1 (PT.plant_val_inf pts _ i hi), ih.noInf h.2⟩,
      fun h => ⟨?_, ih.infOnly h.2⟩⟩
    by_cases hj : j = i
    · exact ITree.modifyAt_hit hj ▸ h.1
    · exact ITree.modifyAt_miss hj ▸ PT.infOnly_regrown .kept ihk h.1

theorem PKids.noInf_iff (ks : PKids α) :
    PKids.noInf ks ↔ ∀ j ch, ks.get? j = some ch → ch.val.state ≠ .infeasible := by
  induction ks using IKids.slots_ind with
  | nil => exact ⟨(fun _ _ _ h => nomatch h), fun _ => trivial⟩
  | none r ih =>
    refine ih.trans ⟨fun h j ch hj => ?_, fun h j ch hj => h (j+1) ch hj⟩
    cases j with
    | zero => cases hj
    | succ j => exact h j ch hj
  | some t r ih =>
    refine (and_congr_right' ih).trans ⟨fun h j ch hj => ?_, fun h => ⟨h 0 t rfl, fun j ch hj => h (j+1) ch hj⟩⟩
    cases j with
    | zero => cases hj; exact h.1
    | succ j => exact h.2 j ch hj

theorem PKids.infOnly_set_none (ks : PKids α) (l : Nat) (h : PKids.InfOnly ks) : PKids.InfOnly (ks.set l none) := by
  induction ks using IKids.slots_ind generalizing l with
  | nil => trivial
  | none r ih => cases l with | zero => exact h | succ l => exact ih l h
  | some t r ih => cases l with | zero => exact h.2 | succ l => exact ⟨h.1, ih l h.2⟩

section
variable [DecidableEq α]
/-- the child that takes its parent's place had a sibling, so it is not marked infeasible -/
theorem PKids.infOnlyKept_reduceAux (ks : PKids α) (h : PKids.InfOnly ks) :
    PKids.InfOnlyKept ks (PKids.reduceAux ks) := by
  induction ks using IKids.nested_ind with
  | nil => exact ⟨rfl, id, id⟩
  | none r ih => exact ⟨(ih h).count, (ih h).noInf, (ih h).infOnly⟩
  | some i c ks r ihk ih =>
    have hk := ihk h.1.2
    have hr := ih h.2
    -- the node stays above its reduced children, or its label-0 child `a` takes its place
    have hn : PT.InfOnly (PT.reduceAux false (.node i c ks)) ∧
        (c.state ≠ .infeasible → (PT.reduceAux false (.node i c ks)).val.state ≠ .infeasible) := by
      rcases PT.reduceAux_node false i c ks with he | ⟨a, b, he, _, hks, _⟩ <;> rw [he]
      · exact ⟨PT.infOnly_regrown .kept hk h.1, id⟩
      · rw [hks] at hk
        exact ⟨(hk.infOnly h.1.2).1, fun _ => (hk.noInf (h.1.1 (hk.count ▸ Nat.le_refl 2))).1⟩
    exact ⟨congrArg Nat.succ hr.count, fun h' => ⟨hn.2 h'.1, hr.noInf h'.2⟩, fun _ => ⟨hn.1, hr.infOnly h.2⟩⟩

theorem PT.infOnly_reduce (t : PT α) (h : PT.InfOnly t) : PT.InfOnly (PT.reduce t) :=
  match t with
  | .node _ _ ks => PT.infOnly_regrown .kept (PKids.infOnlyKept_reduceAux ks h.2) h
end

section
-- classes as implicit binders: see DESIGN.md §2
variable {_ : Zero α} {_ : One α} {_ : Add α} {_ : Mul α} {_ : Neg α} {_ : Sub α} {_ : LE α} {_ : DecidableLE α}

theorem PT.infOnly_elim_both {σ : Type} (tol : α) (O : Oracles σ α) (n : Nat) :
    (∀ (t : PT α) (isRoot : Bool) (path : List (Aff α)) (st : NState α) (s : σ), PT.InfOnly t →
      PT.InfOnly (elimNode tol O n isRoot path st t s).1) ∧
    (∀ (ks : PKids α) (path : List (Aff α)) (paff : Aff α) (pst : NState α) (l : Nat) (s : σ), PKids.InfOnly ks →
      PKids.InfOnly (elimKids tol O n path paff pst ks l s).kids) := by
  refine ITree.ind ?_ (fun _ _ _ _ _ _ => trivial) (fun _ ih path paff pst l s => ih path paff pst (l+1) s) ?_
  · intro i c ks ih isRoot path st s hc
    have hk := ih path c.aff st 0 s hc.2
    refine elimNode_elim tol O n isRoot path st i c ks s _ rfl (fun ls _ hls => ⟨fun h2 => ?_,
      removeLabels_induct _ _ (fun k l _ _ => PKids.infOnly_set_none k l) hk⟩) fun _ a b hks => ?_
    · rcases hls with ⟨rfl, _⟩ | ⟨_, h1⟩
      · refine (PKids.noInf_iff _).mpr fun j ch hj hi => ?_
        have h2' : 2 ≤ ks.count :=
          (Nat.le_trans h2 (removeLabels_count_le _ _)).trans (Nat.le_of_eq (elimKids_count tol O n path c.aff st ks 0 s))
        -- a child marked infeasible after the sweep is reported in `newInf`, then it is removed; or it was cached so,
        -- then it had no sibling
        rcases elimKids_infeasible tol O n path c.aff st ks 0 s j ch ((IKids.mem_existingFrom _ 0 j ch).2
          ⟨j, (Nat.zero_add j).symm, removeLabels_get?_some _ _ _ _ hj⟩) hi with hn | ⟨ch0, h0, hi0⟩
        · rw [removeLabels_removed _ _ h2 j hn] at hj; cases hj
        · obtain ⟨k, e, hk⟩ := (IKids.mem_existingFrom _ 0 j ch0).1 h0
          exact (PKids.noInf_iff _).mp (hc.1 h2') k ch0 hk hi0
      · exact absurd (h1 ▸ h2 : 2 ≤ 1) (Nat.lt_irrefl 1)
    · rw [hks] at hk
      exact ⟨fun _ _ => hk.1, fun _ _ => hk.2.1⟩
  · rintro ⟨j, c, kk⟩ r ihch ihr path paff pst l s hc
    rw [elimKids_cons_some]
    refine ⟨?_, ihr path paff pst (l+1) _ hc.2⟩
    exact elimChild_elim (motive := fun c' => PT.InfOnly c'.1) tol O n path paff pst _ l s _ rfl (fun _ => hc.1)
      (fun _ _ => hc.1) fun st' s' _ _ _ => ihch false _ st' s' hc.1

end

section ordered
variable [Field α] [LinearOrder α] [IsStrictOrderedRing α]

theorem PKids.infOnly_composeS (S : Schema α) (ks : PKids α) (g : PT α) (c : Nat) (h : PKids.InfOnly ks) :
    PKids.InfOnly (PKids.composeS S ks g c).1 :=
  (PKids.infOnlyKept_regrown (PKids.composeS_regrown S ks g c)).infOnly h

theorem PKids.infOnly_mapTerminals (φ : Aff α → Aff α) (ks : PKids α) (h : PKids.InfOnly ks) :
    PKids.InfOnly (PKids.mapTerminals φ ks) :=
  (PKids.infOnlyKept_regrown (PKids.mapTerminals_regrown φ ks)).infOnly h

theorem PT.infOnly_mapTerminals (φ : Aff α → Aff α) (t : PT α) (h : PT.InfOnly t) :
    PT.InfOnly (PT.mapTerminals φ t) :=
  (PKids.infOnly_mapTerminals φ (.cons (some t) .nil) ⟨h, trivial⟩).1

theorem PKids.infOnly_composeP {σ : Type} (S : Schema α) (ex : Explore σ α) (n : Nat) (path : List (Aff α))
    (paff : Aff α) (ks : PKids α) (l : Nat) (g : PT α) (s : σ) (c : Nat) (h : PKids.InfOnly ks) :
    PKids.InfOnly (PKids.composeP S ex n path paff ks l g s c).1 :=
  (PKids.infOnlyKept_regrown (PKids.composeP_regrown S ex n path paff ks l g s c)).infOnly h

/-- the path is the operation's own argument here, so this is not the one-slot case of the lemma above -/
theorem PT.infOnly_composeP {σ : Type} (S : Schema α) (ex : Explore σ α) (n : Nat) (path : List (Aff α))
    (f g : PT α) (s : σ) (c : Nat) (h : PT.InfOnly f) : PT.InfOnly (PT.composeP S ex n path f g s c).1 :=
  match f with
  | .node i fc ks =>
    PT.infOnly_regrown (PT.composeP_regrown S ex n path i fc ks g s c)
      (PKids.infOnlyKept_regrown (PKids.composeP_regrown S ex n path fc.aff ks 0 g s c)) h

theorem PKids.infOnly_plant (pts : List (List α)) (ks : PKids α) (i : Nat) (h : PKids.InfOnly ks) :
    PKids.InfOnly (IKids.modifyAt (PT.plantFn pts) ks i) :=
  (PKids.infOnlyKept_plant pts ks i).infOnly h

end ordered
end AV
