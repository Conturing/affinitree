import AffVerif.Model.Mirror
import AffVerif.Proofs.PolyLemmas
/-!
What `C05_model_mirror_sound` (third clause of C05: `mirror_points` returns only points of the polytope it was asked for) is made
of: every point the loop returns passed the containment test against the normalised polytope shrunk by `eps`
(`mirrorLoop_inside`, `mirrorInside_rows`), and normalising — dividing rows by positive numbers — does not change the point set
(`mem_scaleRows`). No bound on the number of rounds, candidates or dimensions.
-/
namespace AV

section Structure
-- classes as implicit binders: see DESIGN.md §2
variable {α : Type} {_ : Zero α} {_ : Add α} {_ : Mul α} {_ : Sub α} {_ : LE α} {_ : DecidableLE α}

theorem mirrorLoop_succ (eps fac : α) (pn : Aff α) (pts : List (List α)) (k c : Nat) :
    mirrorLoop eps fac pn pts (k+1) c =
      if (pts.filter (mirrorInside eps pn)).isEmpty then mirrorLoop eps fac pn (pts.map (mirrorStep eps fac pn)) k (c+1)
      else some (pts.filter (mirrorInside eps pn), c) := rfl

theorem mirrorLoop_inside (eps fac : α) (pn : Aff α) (pts : List (List α)) (k c : Nat)
    (res : List (List α)) (j : Nat) (h : mirrorLoop eps fac pn pts k c = some (res, j)) :
    res ≠ [] ∧ (∀ x ∈ res, mirrorInside eps pn x = true) ∧ c ≤ j ∧ j < c + k := by
  induction k generalizing pts c with
  | zero => cases h
  | succ k ih =>
    rw [mirrorLoop_succ] at h
    split at h
    · obtain ⟨h1, h2, h3, h4⟩ := ih _ _ h
      exact ⟨h1, h2, Nat.le_of_succ_le h3, by rwa [Nat.add_right_comm, Nat.add_assoc] at h4⟩
    · rename_i hne
      obtain ⟨rfl, rfl⟩ := Prod.mk.inj (Option.some.inj h)
      exact ⟨fun he => hne (by rw [he]; rfl), fun x hx => (List.mem_filter.mp hx).2, le_refl _,
        Nat.lt_add_of_pos_right (Nat.succ_pos k)⟩

end Structure

theorem dot_map_div {α : Type} [Field α] (a x : List α) (k : α) : dot (a.map (· / k)) x = dot a x / k := by
  rw [show a.map (· / k) = smul k⁻¹ a from List.map_congr_left fun e _ => div_eq_inv_mul e k, dot_smul_left,
    inv_mul_eq_div]

variable {α : Type} [Field α] [LinearOrder α] [IsStrictOrderedRing α]

theorem mirrorInside_rows (eps : α) (pn : Aff α) (x : List α) (h : mirrorInside eps pn x = true) :
    ∀ rb ∈ pn.rows, eps ≤ rb.2 - dot rb.1 x := by
  unfold mirrorInside mirrorDist at h
  rw [Poly.distanceRaw_eq, List.map_map, List.all_map, List.all_eq_true] at h
  exact fun rb hrb => OF.sub_nonneg.mp (of_decide_eq_true (h rb hrb))

theorem mem_scaleRows (p : Aff α) (s : List (Option α)) (hlen : s.length = p.rows.length)
    (hpos : ∀ o ∈ s, ∀ k, o = some k → 0 < k) (x : List α) : Poly.Mem (p.scaleRows s) x ↔ Poly.Mem p x := by
  unfold Aff.scaleRows
  rw [Poly.mem_ofRows, List.forall_mem_map]
  refine Iff.trans (forall₂_congr fun q hq => ?_) (forall_mem_zip_fst (P := fun rb => dot rb.1 x ≤ rb.2) hlen.ge)
  obtain ⟨rb, o⟩ := q
  cases o with
  | none => rfl
  | some k =>
    show dot (rb.1.map (· / k)) x ≤ rb.2 / k ↔ _
    rw [dot_map_div, div_le_div_iff_of_pos_right (hpos (some k) (List.of_mem_zip hq).2 k rfl)]

end AV
