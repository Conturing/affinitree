import AffVerif.Proofs.ElimSound
/-!
The terminals of a tree (`PT.terminals`: index and map, in pre-order) and how `PT.obs` relates to them, to
`find_terminal` and to `leafAt`. The sweep never creates a terminal: a decision never loses its last child, so the
terminals of the result are a sub-list of the original's, for every oracle behaviour (terminal-count clause of C06).
-/
set_option linter.unusedSectionVars false
namespace AV
section Structure
variable {α : Type}

mutual
def PT.terminals : PT α → List (Nat × Aff α)
  | .node i c ks => if ks.allNone then [(i, c.aff)] else PKids.terminals ks
def PKids.terminals : PKids α → List (Nat × Aff α)
  | .nil => []
  | .cons none r => PKids.terminals r
  | .cons (some t) r => PT.terminals t ++ PKids.terminals r
end

theorem PKids.terminals_set_none (ks : PKids α) (l : Nat) :
    (PKids.terminals (ks.set l none)).Sublist (PKids.terminals ks) := by
  induction ks using IKids.slots_ind generalizing l with
  | nil => exact List.Sublist.refl _
  | none r ih => cases l with
    | zero => exact List.Sublist.refl _
    | succ l => exact ih l
  | some t r ih => cases l with
    | zero => exact List.sublist_append_right _ _
    | succ l => exact List.Sublist.append (List.Sublist.refl _) (ih l)

-- classes as implicit binders: see DESIGN.md §2
variable {_ : Zero α} {_ : One α} {_ : Add α} {_ : Mul α} {_ : Neg α} {_ : Sub α} {_ : LE α} {_ : DecidableLE α}

theorem PT.terminals_elim_both {σ : Type} (tol : α) (O : Oracles σ α) (n : Nat) :
    (∀ (t : PT α) (isRoot : Bool) (path : List (Aff α)) (st : NState α) (s : σ),
      (PT.terminals (elimNode tol O n isRoot path st t s).1).Sublist (PT.terminals t)) ∧
    (∀ (ks : PKids α) (path : List (Aff α)) (paff : Aff α) (pst : NState α) (l : Nat) (s : σ),
      (PKids.terminals (elimKids tol O n path paff pst ks l s).kids).Sublist (PKids.terminals ks)) := by
  refine ITree.ind ?_ (fun _ _ _ _ _ => List.Sublist.refl _) (fun r ih path paff pst l s => ih path paff pst (l+1) s) ?_
  · intro i c ks ih isRoot path st s
    have hs := ih path c.aff st 0 s
    have ha : (elimKids tol O n path c.aff st ks 0 s).kids.allNone = ks.allNone := elimKids_allNone ..
    refine elimNode_elim (motive := fun t => (PT.terminals t).Sublist _) tol O n isRoot path st i c ks s _ rfl
      (fun ls _ _ => ?_) fun _ a b hks => ?_
    · rw [PT.terminals, PT.terminals, removeLabels_allNone, ha]
      split
      · exact List.Sublist.refl _
      · exact (removeLabels_induct (Q := fun k => (PKids.terminals k).Sublist _) _ _
          (fun k l _ _ hk => (PKids.terminals_set_none k l).trans hk) (List.Sublist.refl _)).trans hs
    · rw [hks] at hs ha
      rw [PT.terminals, ← ha]
      exact ⟨fun _ _ => (List.sublist_append_left _ _).trans hs,
        fun _ _ => ((List.sublist_append_left _ _).trans (List.sublist_append_right _ _)).trans hs⟩
  · rintro ⟨j, c, kk⟩ r ihc ih path paff pst l s
    rw [elimKids_cons_some]
    refine List.Sublist.append ?_ (ih path paff pst (l+1) _)
    exact elimChild_elim (motive := fun c' => (PT.terminals c'.1).Sublist _) tol O n path paff pst _ l s _ rfl
      (fun _ => List.Sublist.refl _) (fun _ _ => List.Sublist.refl _) fun st' s' _ _ _ => ihc false _ st' s'

end Structure

variable {α : Type} [Field α] [LinearOrder α] [IsStrictOrderedRing α] {β : Type}

theorem PKids.terminals_length (ks : PKids α) : (PKids.terminals ks).length = IKids.numTerminals ks := by
  induction ks using IKids.nested_ind with
  | nil => rfl
  | none r ih => exact ih
  | some i c ks r ihk ih =>
    refine List.length_append.trans (congrArg₂ (· + ·) ?_ ih)
    show (if ks.allNone then _ else _ : List _).length = if ks.allNone then 1 else _
    split
    · rfl
    · exact ihk

theorem PT.terminals_length (t : PT α) : (PT.terminals t).length = ITree.numTerminals t :=
  -- at the one-slot list that holds `t`, whose terminals are `PT.terminals t ++ []`
  List.length_append.symm.trans (PKids.terminals_length (.cons (some t) .nil))

theorem PKids.terminals_get (ks : PKids α) (l : Nat) (ch : PT α) (h : ks.get? l = some ch) :
    (PT.terminals ch).Sublist (PKids.terminals ks) := by
  induction ks using IKids.slots_ind generalizing l with
  | nil => cases h
  | none r ih => cases l with
    | zero => cases h
    | succ l => exact ih l h
  | some t r ih => cases l with
    | zero => exact Option.some.inj h ▸ List.sublist_append_left _ _
    | succ l => exact (ih l h).trans (List.sublist_append_right _ _)

theorem PKids.obsAt_mem (f : Nat → Aff α → β) (ks : PKids α) (l : Nat) (x : List α) (b : β)
    (h : PKids.obsAt f ks l x = some b) : ∃ p ∈ PKids.terminals ks, b = f p.1 p.2 := by
  induction ks using IKids.nested_ind generalizing l with
  | nil => cases h
  | none r ih => cases l with
    | zero => cases h
    | succ l => exact ih l h
  | some i c ks r ihk ih => cases l with
    | zero =>
      refine (?_ : ∃ p ∈ PT.terminals (.node i c ks), _).imp fun _ => And.imp_left (List.mem_append_left _)
      rw [PT.terminals]
      change (if ks.allNone then _ else _) = _ at h
      split at h
      · rw [if_pos ‹_›]; exact ⟨(i, c.aff), List.mem_singleton.2 rfl, (Option.some.inj h).symm⟩
      · rw [if_neg ‹_›]; exact ihk _ h
    | succ l => exact (ih l h).imp fun _ => And.imp_left (List.mem_append_right _)

theorem PT.obs_mem (f : Nat → Aff α → β) (t : PT α) (x : List α) (b : β) (h : PT.obs f t x = some b) :
    ∃ p ∈ PT.terminals t, b = f p.1 p.2 :=
  List.append_nil (PT.terminals t) ▸ PKids.obsAt_mem f (.cons (some t) .nil) 0 x b h

theorem PKids.obsAt_idx (ks : PKids α) (l : Nat) (x : List α) :
    PKids.obsAt (fun i _ => i) ks l x = (PKids.findAt ks l x).map (·.1) := by
  induction ks using IKids.nested_ind generalizing l with
  | nil => rfl
  | none r ih => cases l with
    | zero => rfl
    | succ l => exact ih l
  | some i c ks r ihk ih => cases l with
    | zero =>
      show (if ks.allNone then _ else _) = Option.map _ (if ks.allNone then _ else _)
      split
      · rfl
      · rw [ihk, Option.map_map]; rfl
    | succ l => exact ih l

theorem PT.obs_idx (t : PT α) (x : List α) :
    PT.obs (fun i _ => i) t x = (PT.findTerminal t x).map (·.1) :=
  PKids.obsAt_idx (.cons (some t) .nil) 0 x

theorem PKids.obsAt_aff (ks : PKids α) (l : Nat) (x : List α) :
    PKids.obsAt (fun _ a => a) ks l x = PKids.leafAtK ks l x := by
  induction ks using IKids.nested_ind generalizing l with
  | nil => rfl
  | none r ih => cases l with
    | zero => rfl
    | succ l => exact ih l
  | some i c ks r ihk ih => cases l with
    | zero => exact congrArg (fun o => if ks.allNone then some c.aff else o) (ihk _)
    | succ l => exact ih l

theorem PT.obs_aff (t : PT α) (x : List α) : PT.obs (fun _ a => a) t x = PT.leafAt t x :=
  PKids.obsAt_aff (.cons (some t) .nil) 0 x

theorem PKids.terminals_elimKids {σ : Type} (tol : α) (O : Oracles σ α) (n : Nat) (path : List (Aff α))
    (paff : Aff α) (pst : NState α) (ks : PKids α) (l : Nat) (s : σ) :
    (PKids.terminals (elimKids tol O n path paff pst ks l s).kids).Sublist (PKids.terminals ks) ∧
    (elimKids tol O n path paff pst ks l s).kids.count = ks.count :=
  ⟨(PT.terminals_elim_both tol O n).2 ks path paff pst l s, elimKids_count tol O n path paff pst ks l s⟩

end AV
