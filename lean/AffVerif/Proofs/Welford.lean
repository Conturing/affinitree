import AffVerif.Model.Stats
import Mathlib.Data.List.Induction
import Mathlib.Tactic.Ring
/-!
Welford's running update computes the textbook mean and sum of squared deviations (over any field of characteristic
zero, where the sample count never vanishes): `C13_depth_stats_welford` in `Props/C13.lean`.
-/
namespace AV
variable {α : Type} [Field α]

def sqSum (xs : List α) : α := (xs.map (fun x => x * x)).sum

/-- one update, in the quantities that evolve additively: the count, `n·mean` (the running sum) and
    `sum2 + n·mean²` (the running sum of squares) -/
theorem Welford.add_spec (w : Welford α) (x : α) (h : w.n + 1 ≠ 0) :
    (w.add x).n = w.n + 1 ∧ (w.add x).n * (w.add x).mean = w.n * w.mean + x ∧
    (w.add x).sum2 + (w.add x).n * ((w.add x).mean * (w.add x).mean) =
      w.sum2 + w.n * (w.mean * w.mean) + x * x := by
  -- all that matters of the increment `d = (x − mean)/(n+1)` is `x = mean + (n+1)·d`; the rest is polynomial
  have hx : x = w.mean + (w.n + 1) * ((x - w.mean) / (w.n + 1)) := by rw [mul_div_cancel₀ _ h]; ring
  simp only [Welford.add]
  generalize (x - w.mean) / (w.n + 1) = d at hx
  subst hx
  exact ⟨trivial, by ring, by ring⟩

def Welford.Inv (xs : List α) (w : Welford α) : Prop :=
  w.n = (xs.length : α) ∧ w.n * w.mean = xs.sum ∧ w.sum2 + w.n * (w.mean * w.mean) = sqSum xs

theorem sum_sq_dev (xs : List α) (c : α) :
    (xs.map (fun x => (x - c) * (x - c))).sum = sqSum xs - 2 * c * xs.sum + (xs.length : α) * (c * c) := by
  induction xs with
  | nil => simp [sqSum]
  | cons x xs ih =>
    simp only [List.map_cons, List.sum_cons, ih, sqSum, List.length_cons, Nat.cast_add, Nat.cast_one]
    ring

variable [CharZero α]

theorem Welford.inv_add (xs : List α) (w : Welford α) (x : α) (h : Welford.Inv xs w) :
    Welford.Inv (xs ++ [x]) (w.add x) := by
  obtain ⟨hn, hm, hs⟩ := h
  obtain ⟨hn', hm', hs'⟩ := w.add_spec x (hn ▸ Nat.cast_add_one_ne_zero _)
  exact ⟨by simp [hn', hn], by simp [hm', hm], by simp [hs', hs, sqSum]⟩

theorem Welford.inv_run (xs : List α) : Welford.Inv xs (Welford.run xs) := by
  induction xs using List.reverseRecOn with
  | nil => simp [Welford.Inv, Welford.run, Welford.new, sqSum]
  | append_singleton xs x ih => rw [Welford.run, List.foldl_append]; exact Welford.inv_add xs _ x ih

end AV
