import AffVerif.Proofs.InfSound
import AffVerif.Proofs.WitSound
/-!
`plant`: the user appends points to the witness list of a node. `PT.hitPaths t i []` lists the paths of the nodes with
index `i` as `modifyAt` meets them; `plant` keeps every clause that survives the append at those paths
(`PT.stSound_plant_at_both`): the witness clause when the points satisfy the path within `tol`, the infeasible clause
always.
-/
set_option linter.unusedSectionVars false
namespace AV
variable {α : Type}

section hitPaths
variable [Neg α]
mutual
def PT.hitPaths : PT α → Nat → List (Aff α) → List (List (Aff α))
  | .node j c ks, i, path => if j = i then [path] else PKids.hitPaths ks i path c.aff 0
def PKids.hitPaths : PKids α → Nat → List (Aff α) → Aff α → Nat → List (List (Aff α))
  | .nil, _, _, _, _ => []
  | .cons none r, i, path, a, l => PKids.hitPaths r i path a (l+1)
  | .cons (some t) r, i, path, a, l => PT.hitPaths t i (path ++ [halfspace a l]) ++ PKids.hitPaths r i path a (l+1)
end
end hitPaths

theorem PT.plant_val_aff (pts : List (List α)) (t : PT α) (i : Nat) :
    (ITree.modifyAt (PT.plantFn pts) t i).val.aff = t.val.aff := by
  cases t with
  | node j c ks =>
    by_cases hj : j = i
    · rw [ITree.modifyAt_hit hj]; rfl
    · rw [ITree.modifyAt_miss hj]; rfl

theorem PKids.shaped_plant (pts : List (List α)) (K n m : Nat) (ks : PKids α) (i : Nat) (h : PKids.Shaped K n m ks) :
    PKids.Shaped K n m (IKids.modifyAt (PT.plantFn pts) ks i) := by
  induction ks using IKids.nested_ind with
  | nil => trivial
  | none r ih => exact ih h
  | some j c ks r ihk ih =>
    refine ⟨?_, ih h.2⟩
    by_cases hj : j = i
    · exact ITree.modifyAt_hit hj ▸ h.1
    · have ha := IKids.modifyAt_allNone (PT.plantFn pts) ks i
      obtain ⟨h1, h2, h3, h4, h5, h6⟩ := h.1
      exact ITree.modifyAt_miss hj ▸ ⟨h1, h2, (IKids.modifyAt_length (PT.plantFn pts) ks i).trans h3, ha ▸ h4, ha ▸ h5, ihk h6⟩

section
variable [Field α]

theorem PT.stSound_plant_at_both (P : List (Aff α) → NState α → Prop) (pts : List (List α)) (i : Nat) :
    (∀ (t : PT α) (path : List (Aff α)),
      (∀ q ∈ PT.hitPaths t i path, ∀ st, P q st → P q (NState.plant pts st)) →
      PT.StSound P path t → PT.StSound P path (ITree.modifyAt (PT.plantFn pts) t i)) ∧
    (∀ (ks : PKids α) (path : List (Aff α)) (a : Aff α) (l : Nat),
      (∀ q ∈ PKids.hitPaths ks i path a l, ∀ st, P q st → P q (NState.plant pts st)) →
      PKids.StSound P path a l ks → PKids.StSound P path a l (IKids.modifyAt (PT.plantFn pts) ks i)) := by
  refine ITree.ind ?_ (fun _ _ _ _ _ => trivial) (fun r ih path a l hplant h => ih path a (l+1) hplant h)
    (fun t r iht ih path a l hplant h =>
      ⟨iht _ (fun q hq => hplant q (List.mem_append.2 (Or.inl hq))) h.1,
       ih path a (l+1) (fun q hq => hplant q (List.mem_append.2 (Or.inr hq))) h.2⟩)
  intro j c ks ih path hplant h
  by_cases hj : j = i
  · have hp : PT.hitPaths (.node j c ks) i path = [path] := if_pos hj
    exact ITree.modifyAt_hit hj ▸ ⟨hplant path (hp ▸ List.mem_singleton.2 rfl) _ h.1, h.2⟩
  · have hp : PT.hitPaths (.node j c ks) i path = PKids.hitPaths ks i path c.aff 0 := if_neg hj
    exact ITree.modifyAt_miss hj ▸ ⟨h.1, ih path c.aff 0 (hp ▸ hplant) h.2⟩

theorem PT.stSound_plant (P : List (Aff α) → NState α → Prop)
    (hplant : ∀ path st pts, P path st → P path (NState.plant pts st)) (pts : List (List α)) (path : List (Aff α))
    (t : PT α) (i : Nat) (h : PT.StSound P path t) : PT.StSound P path (ITree.modifyAt (PT.plantFn pts) t i) :=
  (PT.stSound_plant_at_both P pts i).1 t path (fun q _ st => hplant q st pts) h

end

section ordered
variable [Field α] [LinearOrder α] [IsStrictOrderedRing α]

theorem PKids.stSound_plant (P : List (Aff α) → NState α → Prop)
    (hplant : ∀ path st pts, P path st → P path (NState.plant pts st)) (pts : List (List α)) (path : List (Aff α))
    (a : Aff α) (l : Nat) (ks : PKids α) (i : Nat) (h : PKids.StSound P path a l ks) :
    PKids.StSound P path a l (IKids.modifyAt (PT.plantFn pts) ks i) :=
  (PT.stSound_plant_at_both P pts i).2 ks path a l (fun q _ st => hplant q st pts) h

theorem PKids.infSound_plant (pts : List (List α)) (path : List (Aff α)) (a : Aff α) (l : Nat) (ks : PKids α) (i : Nat)
    (h : PKids.InfSound path a l ks) : PKids.InfSound path a l (IKids.modifyAt (PT.plantFn pts) ks i) :=
  PKids.infSound_of_stSound (PKids.stSound_plant StInf stInf_plant pts path a l ks i) h

theorem PKids.witSound_plant (tol : α) (pts : List (List α)) (path : List (Aff α)) (a : Aff α) (l : Nat) (ks : PKids α)
    (i : Nat) (h : PKids.WitSound tol path a l ks)
    (hp : ∀ q ∈ PKids.hitPaths ks i path a l, ∀ w ∈ pts, InPathTol tol q w) :
    PKids.WitSound tol path a l (IKids.modifyAt (PT.plantFn pts) ks i) :=
  PKids.witSound_of_stSound ((PT.stSound_plant_at_both _ pts i).2 ks path a l
    (fun q hq => stWit_plant tol q pts (hp q hq))) h

end ordered
end AV
