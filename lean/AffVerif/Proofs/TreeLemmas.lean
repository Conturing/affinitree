import AffVerif.Proofs.KidsLemmas
import Mathlib.Data.List.Nodup
/-!
Every operation of `Tree<N,K>` rewrites one sub-tree (`modifyAt`), so in the pre-order list `entries` of `(index, value)`
pairs it replaces one block. `find?`, `pathTo?` and `parentOf?` each return what the first pre-order sub-tree with the
index asked for carries (`lookup` in `locs`, the sub-trees with their root paths: `lookups_both`); with distinct indices
"first" is "the" (`ITree.at_loc`). `subs` is the image of `locs`, and the arena is the image of `subs` under `record`.
-/
namespace AV
variable {β : Type}

mutual
def ITree.entries : ITree β → List (Nat × β)
  | .node i v ks => (i, v) :: ks.entries
def IKids.entries : IKids β → List (Nat × β)
  | .nil => []
  | .cons none r => r.entries
  | .cons (some t) r => t.entries ++ r.entries
end

theorem indices_eq_entries_both :
    (∀ t : ITree β, t.indices = t.entries.map Prod.fst) ∧ (∀ ks : IKids β, ks.indices = ks.entries.map Prod.fst) :=
  ITree.ind (fun i _ _ ih => congrArg (i :: ·) ih) rfl (fun _ ih => ih)
    (fun _ _ iht ihr => (congrArg₂ (· ++ ·) iht ihr).trans List.map_append.symm)

theorem ITree.indices_eq_entries (t : ITree β) : t.indices = t.entries.map Prod.fst := indices_eq_entries_both.1 t
theorem IKids.indices_eq_entries (ks : IKids β) : ks.indices = ks.entries.map Prod.fst := indices_eq_entries_both.2 ks

theorem size_eq_entries_both :
    (∀ t : ITree β, t.size = t.entries.length) ∧ (∀ ks : IKids β, ks.size = ks.entries.length) :=
  ITree.ind (fun _ _ _ ih => (Nat.add_comm 1 _).trans (congrArg (· + 1) ih)) rfl (fun _ ih => ih)
    (fun _ _ iht ihr => (congrArg₂ (· + ·) iht ihr).trans List.length_append.symm)

theorem ITree.size_eq_entries (t : ITree β) : t.size = t.entries.length := size_eq_entries_both.1 t
theorem IKids.size_eq_entries (ks : IKids β) : ks.size = ks.entries.length := size_eq_entries_both.2 ks

theorem ITree.entries_eq (s : ITree β) : s.entries = (s.idx, s.val) :: s.kids.entries := by
  cases s; rfl

theorem IKids.entries_empty (n : Nat) : (IKids.empty n : IKids β).entries = [] := by
  induction n with
  | zero => rfl
  | succ n ih => rw [IKids.empty, IKids.entries, ih]

theorem IKids.entries_set_some (ks : IKids β) (l : Nat) (c : ITree β) (hl : l < ks.length)
    (hnone : ks.get? l = none) : (ks.set l (some c)).entries.Perm (c.entries ++ ks.entries) := by
  induction ks using IKids.slots_ind generalizing l with
  | nil => cases hl
  | none r ih => cases l with
    | zero => exact List.Perm.refl _
    | succ l => exact ih l (Nat.lt_of_succ_lt_succ hl) hnone
  | some t r ih => cases l with
    | zero => cases hnone
    | succ l =>
      rw [IKids.set, IKids.entries, IKids.entries]
      exact ((ih l (Nat.lt_of_succ_lt_succ hl) hnone).append_left _).trans (List.perm_append_comm_assoc _ _ _)

theorem IKids.entries_set_none (ks : IKids β) (l : Nat) : (ks.set l none).entries.Sublist ks.entries := by
  induction ks using IKids.slots_ind generalizing l with
  | nil => exact List.Sublist.refl _
  | none r ih => cases l with
    | zero => exact List.Sublist.refl _
    | succ l => exact ih l
  | some t r ih => cases l with
    | zero => exact List.sublist_append_right _ _
    | succ l => exact (List.Sublist.refl _).append (ih l)

theorem IKids.entries_get (ks : IKids β) (l : Nat) (c : ITree β) (h : ks.get? l = some c) :
    c.entries.Sublist ks.entries := by
  induction ks using IKids.slots_ind generalizing l with
  | nil => cases h
  | none r ih => cases l with
    | zero => cases h
    | succ l => exact ih l h
  | some t r ih => cases l with
    | zero => cases h; exact List.sublist_append_left _ _
    | succ l => exact (ih l h).trans (List.sublist_append_right _ _)

theorem IKids.mem_slotIdx (ks : IKids β) (j : Nat) : some j ∈ ks.slotIdx ↔ j ∈ ks.members.map ITree.idx := by
  induction ks using IKids.slots_ind with
  | nil => exact ⟨fun h => (nomatch h), fun h => (nomatch h)⟩
  | none r ih => exact (List.mem_cons.trans (or_iff_right (fun h => by cases h))).trans ih
  | some t r ih =>
    exact List.mem_cons.trans ((or_congr ⟨Option.some.inj, congrArg some⟩ ih).trans List.mem_cons.symm)

theorem IKids.allNone_iff_slotIdx (ks : IKids β) : ks.allNone = ks.slotIdx.all Option.isNone := by
  induction ks using IKids.slots_ind with
  | nil => rfl
  | none r ih => rw [IKids.allNone, IKids.slotIdx, List.all_cons, ← ih]; rfl
  | some t r ih => rfl

/-- the record the arena holds for the node at the root of `s`, given its parent -/
def ITree.record (s : ITree β) (p : Option Nat) : ANode β :=
  ⟨s.idx, p, s.kids.slotIdx, s.kids.allNone, s.val⟩

mutual
def ITree.subs : ITree β → Option Nat → List (ITree β × Option Nat)
  | .node i v ks, p => (.node i v ks, p) :: ks.subs i
def IKids.subs : IKids β → Nat → List (ITree β × Option Nat)
  | .nil, _ => []
  | .cons none r, p => r.subs p
  | .cons (some t) r, p => t.subs (some p) ++ r.subs p
end

theorem ITree.subs_head (t : ITree β) (p : Option Nat) : (t, p) ∈ t.subs p := by
  cases t; exact List.mem_cons_self

theorem toArenaAux_eq_subs_both :
    (∀ (t : ITree β) (p : Option Nat), t.toArenaAux p = (t.subs p).map (fun sq => sq.1.record sq.2)) ∧
    (∀ (ks : IKids β) (p : Nat), ks.toArenaAux p = (ks.subs p).map (fun sq => sq.1.record sq.2)) :=
  ITree.ind (fun i v ks ih p => congrArg (ITree.record (.node i v ks) p :: ·) (ih i)) (fun _ => rfl) (fun _ ih => ih)
    (fun _ _ iht ihr p => (congrArg₂ (· ++ ·) (iht (some p)) (ihr p)).trans List.map_append.symm)

theorem IKids.toArenaAux_eq_subs (ks : IKids β) (p : Nat) :
    ks.toArenaAux p = (ks.subs p).map (fun sq => sq.1.record sq.2) := toArenaAux_eq_subs_both.2 ks p

theorem ITree.mem_toArena {t : ITree β} {nd : ANode β} :
    nd ∈ t.toArena ↔ ∃ sq ∈ t.subs none, sq.1.record sq.2 = nd := by
  rw [ITree.toArena, toArenaAux_eq_subs_both.1]; exact List.mem_map

theorem subs_idx_both :
    (∀ (t : ITree β) (p : Option Nat), (t.subs p).map (fun sq => sq.1.idx) = t.indices) ∧
    (∀ (ks : IKids β) (p : Nat), (ks.subs p).map (fun sq => sq.1.idx) = ks.indices) :=
  ITree.ind (fun i _ _ ih _ => congrArg (i :: ·) (ih i)) (fun _ => rfl) (fun _ ih => ih)
    (fun _ _ iht ihr p => List.map_append.trans (congrArg₂ (· ++ ·) (iht (some p)) (ihr p)))

theorem ITree.subs_idx (t : ITree β) (p : Option Nat) : (t.subs p).map (fun sq => sq.1.idx) = t.indices :=
  subs_idx_both.1 t p

theorem ITree.subs_idx_mem (t : ITree β) (p : Option Nat) (sq : ITree β × Option Nat) (h : sq ∈ t.subs p) :
    sq.1.idx ∈ t.indices := by
  rw [← ITree.subs_idx t p]
  exact List.mem_map.mpr ⟨sq, h, rfl⟩

theorem toArenaAux_entries_both :
    (∀ (t : ITree β) (p : Option Nat), (t.toArenaAux p).map (fun nd => (nd.idx, nd.val)) = t.entries) ∧
    (∀ (ks : IKids β) (p : Nat), (ks.toArenaAux p).map (fun nd => (nd.idx, nd.val)) = ks.entries) :=
  ITree.ind (fun i v _ ih _ => congrArg ((i, v) :: ·) (ih i)) (fun _ => rfl) (fun _ ih => ih)
    (fun _ _ iht ihr p => List.map_append.trans (congrArg₂ (· ++ ·) (iht (some p)) (ihr p)))

theorem ITree.toArenaAux_entries (t : ITree β) (p : Option Nat) :
    (t.toArenaAux p).map (fun nd => (nd.idx, nd.val)) = t.entries := toArenaAux_entries_both.1 t p
theorem IKids.toArenaAux_entries (ks : IKids β) (p : Nat) :
    (ks.toArenaAux p).map (fun nd => (nd.idx, nd.val)) = ks.entries := toArenaAux_entries_both.2 ks p

theorem IKids.toArenaAux_allNone (ks : IKids β) (p : Nat) (h : ks.allNone = true) : ks.toArenaAux p = [] :=
  IKids.allNone_ind (Q := fun ks => ks.toArenaAux p = []) rfl (fun _ h => h) ks h

theorem IKids.arena_leaf_flag (ks : IKids β) (p : Nat) :
    ∀ nd ∈ ks.toArenaAux p, nd.isleaf = nd.children.all Option.isNone := by
  intro nd hnd
  rw [IKids.toArenaAux_eq_subs] at hnd
  obtain ⟨sq, _, rfl⟩ := List.mem_map.mp hnd
  exact IKids.allNone_iff_slotIdx _

/-- a sub-tree with the `(node, label)` pairs from the root of the walk down to it -/
abbrev Loc (β : Type) := ITree β × List (Nat × Nat)

mutual
def ITree.locs : ITree β → List (Nat × Nat) → List (Loc β)
  | .node i v ks, path => (.node i v ks, path) :: ks.locs i 0 path
def IKids.locs : IKids β → Nat → Nat → List (Nat × Nat) → List (Loc β)
  | .nil, _, _, _ => []
  | .cons none r, p, l, path => r.locs p (l+1) path
  | .cons (some t) r, p, l, path => t.locs (path ++ [(p, l)]) ++ r.locs p (l+1) path
end

/-- what `g` sees in the first entry with index `i` (entries in which `g` sees nothing are passed over) -/
def lookup {γ : Type} (g : Loc β → Option γ) (L : List (Loc β)) (i : Nat) : Option γ :=
  L.findSome? (fun e => if e.1.idx = i then g e else none)

section lookup
variable {γ : Type} (g : Loc β → Option γ)

theorem lookup_append (L₁ L₂ : List (Loc β)) (i : Nat) :
    lookup g (L₁ ++ L₂) i = (lookup g L₁ i).or (lookup g L₂ i) := List.findSome?_append

theorem lookup_cons (e : Loc β) (L : List (Loc β)) (i : Nat) :
    lookup g (e :: L) i = if e.1.idx = i then (g e).or (lookup g L i) else lookup g L i := by
  rw [lookup, List.findSome?_cons]
  by_cases h : e.1.idx = i
  · simp only [if_pos h]; cases g e <;> rfl
  · simp only [if_neg h]; rfl

theorem lookup_cons_node (j : Nat) (v : β) (ks : IKids β) (path : List (Nat × Nat)) (L : List (Loc β)) (i : Nat) :
    lookup g ((.node j v ks, path) :: L) i =
      if j = i then (g (.node j v ks, path)).or (lookup g L i) else lookup g L i := lookup_cons g _ L i

theorem lookup_eq_none (L : List (Loc β)) (i : Nat) (h : i ∉ L.map (·.1.idx)) : lookup g L i = none :=
  List.findSome?_eq_none_iff.mpr (fun e he => if_neg (fun hi => h (List.mem_map.mpr ⟨e, he, hi⟩)))

theorem lookup_eq_none_iff (hg : ∀ e, g e ≠ none) (L : List (Loc β)) (i : Nat) :
    lookup g L i = none ↔ i ∉ L.map (·.1.idx) := by
  refine ⟨fun h hi => ?_, lookup_eq_none g L i⟩
  obtain ⟨e, he, rfl⟩ := List.mem_map.mp hi
  exact hg e ((if_pos rfl).symm.trans (List.findSome?_eq_none_iff.mp h e he))

theorem lookup_some (L : List (Loc β)) (i : Nat) (b : γ) (h : lookup g L i = some b) :
    ∃ e ∈ L, e.1.idx = i ∧ g e = some b := by
  obtain ⟨e, he, hb⟩ := List.exists_of_findSome?_eq_some h
  by_cases hi : e.1.idx = i
  · exact ⟨e, he, hi, by rwa [if_pos hi] at hb⟩
  · rw [if_neg hi] at hb; cases hb

theorem lookup_mem (L : List (Loc β)) (hnd : (L.map (·.1.idx)).Nodup) (e : Loc β) (he : e ∈ L) :
    lookup g L e.1.idx = g e := by
  induction L with
  | nil => cases he
  | cons y L ih =>
    rw [List.map_cons, List.nodup_cons] at hnd
    rw [lookup_cons]
    rcases List.mem_cons.mp he with rfl | he
    · rw [if_pos rfl, lookup_eq_none g L _ hnd.1, Option.or_none]
    · rw [if_neg (fun e' : y.1.idx = e.1.idx => hnd.1 (e' ▸ List.mem_map.mpr ⟨e, he, rfl⟩)), ih hnd.2 he]

end lookup

theorem IKids.find?_cons_some (t : ITree β) (r : IKids β) (i : Nat) :
    (IKids.cons (some t) r).find? i = (t.find? i).or (r.find? i) := by
  rw [IKids.find?]; cases t.find? i <;> rfl

theorem IKids.pathTo?_cons_some (t : ITree β) (r : IKids β) (p l i : Nat) :
    (IKids.cons (some t) r).pathTo? p l i = ((t.pathTo? i).map ((p, l) :: ·)).or (r.pathTo? p (l+1) i) := by
  rw [IKids.pathTo?]; cases t.pathTo? i <;> rfl

theorem IKids.parentOf?_cons_some (t : ITree β) (r : IKids β) (p l i : Nat) :
    (IKids.cons (some t) r).parentOf? p l i =
      if t.idx = i then some (p, l) else (t.parentOf? i).or (r.parentOf? p (l+1) i) := by
  rw [IKids.parentOf?]; cases t.parentOf? i <;> rfl

/-- `find?`, `pathTo?` and `parentOf?` are look-ups in `locs`. The root's own entry is no candidate for `parentOf?`;
    under a non-empty `path` it would be one for `getLast?`, hence the `tail`. -/
theorem lookups_both (i : Nat) :
    (∀ (t : ITree β) (path : List (Nat × Nat)),
      t.find? i = lookup (fun e => some e.1) (t.locs path) i ∧
      (t.pathTo? i).map (path ++ ·) = lookup (fun e => some e.2) (t.locs path) i ∧
      t.parentOf? i = lookup (·.2.getLast?) (t.locs path).tail i) ∧
    (∀ (ks : IKids β) (p l : Nat) (path : List (Nat × Nat)),
      ks.find? i = lookup (fun e => some e.1) (ks.locs p l path) i ∧
      (ks.pathTo? p l i).map (path ++ ·) = lookup (fun e => some e.2) (ks.locs p l path) i ∧
      ks.parentOf? p l i = lookup (·.2.getLast?) (ks.locs p l path) i) := by
  refine ITree.ind ?_ (fun _ _ _ => ⟨rfl, rfl, rfl⟩) ?_ ?_
  · intro j v ks ih path
    obtain ⟨h1, h2, h3⟩ := ih j 0 path
    refine ⟨?_, ?_, ?_⟩
    · rw [ITree.find?, ITree.locs, lookup_cons_node, h1]; rfl
    · rw [ITree.pathTo?, ITree.locs, lookup_cons_node, ← h2]
      by_cases h : j = i
      · rw [if_pos h, if_pos h, Option.map_some, List.append_nil]; rfl
      · rw [if_neg h, if_neg h]
    · rw [ITree.parentOf?, ITree.locs, List.tail_cons, h3]
  · intro r ih p l path
    obtain ⟨h1, h2, h3⟩ := ih p (l+1) path
    exact ⟨by rw [IKids.find?, IKids.locs, h1], by rw [IKids.pathTo?, IKids.locs, h2],
      by rw [IKids.parentOf?, IKids.locs, h3]⟩
  · intro t r iht ihr p l path
    obtain ⟨t1, t2, t3⟩ := iht (path ++ [(p, l)])
    obtain ⟨r1, r2, r3⟩ := ihr p (l+1) path
    refine ⟨?_, ?_, ?_⟩
    · rw [IKids.find?_cons_some, IKids.locs, lookup_append, t1, r1]
    · rw [IKids.pathTo?_cons_some, IKids.locs, lookup_append, ← t2, ← r2, Option.map_or, Option.map_map]
      simp only [Function.comp_def, List.append_assoc, List.singleton_append]
    · rw [IKids.parentOf?_cons_some, IKids.locs, lookup_append, t3, r3]
      cases t with
      | node j v gk =>
        rw [ITree.locs, List.tail_cons, lookup_cons_node, List.getLast?_concat, ITree.idx]
        split <;> rfl

theorem ITree.find?_eq_lookup (t : ITree β) (i : Nat) : t.find? i = lookup (fun e => some e.1) (t.locs []) i :=
  ((lookups_both i).1 t []).1
theorem IKids.find?_eq_lookup (ks : IKids β) (p l i : Nat) :
    ks.find? i = lookup (fun e => some e.1) (ks.locs p l []) i := ((lookups_both i).2 ks p l []).1

/-- the entry of `subs` behind a located sub-tree: the path cut down to the parent's index -/
def Loc.sub (e : Loc β) : ITree β × Option Nat := (e.1, e.2.getLast?.map Prod.fst)

theorem locs_sub_both :
    (∀ (t : ITree β) (path : List (Nat × Nat)), (t.locs path).map Loc.sub = t.subs (path.getLast?.map Prod.fst)) ∧
    (∀ (ks : IKids β) (p l : Nat) (path : List (Nat × Nat)), (ks.locs p l path).map Loc.sub = ks.subs p) := by
  refine ITree.ind ?_ (fun _ _ _ => rfl) ?_ ?_
  · intro j v ks ih path; rw [ITree.locs, ITree.subs, List.map_cons, ih]; rfl
  · intro r ih p l path; rw [IKids.locs, IKids.subs, ih]
  · intro t r iht ihr p l path
    rw [IKids.locs, IKids.subs, List.map_append, iht, ihr, List.getLast?_concat]; rfl

theorem ITree.locs_sub (t : ITree β) : (t.locs []).map Loc.sub = t.subs none := locs_sub_both.1 t []
theorem IKids.locs_sub (ks : IKids β) (p l : Nat) : (ks.locs p l []).map Loc.sub = ks.subs p := locs_sub_both.2 ks p l []

theorem ITree.locs_idx (t : ITree β) : (t.locs []).map (·.1.idx) = t.indices := by
  rw [← ITree.subs_idx t none, ← ITree.locs_sub t, List.map_map]; rfl

theorem IKids.locs_idx (ks : IKids β) (p l : Nat) : (ks.locs p l []).map (·.1.idx) = ks.indices := by
  rw [← subs_idx_both.2 ks p, ← IKids.locs_sub ks p l, List.map_map]; rfl

theorem ITree.locs_head (t : ITree β) (path : List (Nat × Nat)) : (t, path) ∈ t.locs path := by
  cases t; exact List.mem_cons_self

theorem IKids.locs_eq_flatMap (ks : IKids β) (p l : Nat) (path : List (Nat × Nat)) :
    ks.locs p l path = (ks.existingFrom l).flatMap (fun jc => jc.2.locs (path ++ [(p, jc.1)])) := by
  induction ks using IKids.slots_ind generalizing l with
  | nil => rfl
  | none r ih => exact ih (l+1)
  | some t r ih => rw [IKids.locs, IKids.existingFrom, List.flatMap_cons, ih]

theorem IKids.mem_locs (ks : IKids β) (p l : Nat) (path : List (Nat × Nat)) (e : Loc β) :
    e ∈ ks.locs p l path ↔ ∃ k c, ks.get? k = some c ∧ e ∈ c.locs (path ++ [(p, l + k)]) := by
  rw [IKids.locs_eq_flatMap, List.mem_flatMap]
  exact ⟨fun ⟨(j, c), hjc, he⟩ => by
      obtain ⟨k, rfl, hk⟩ := (IKids.mem_existingFrom ks l j c).mp hjc
      exact ⟨k, c, hk, he⟩,
    fun ⟨k, c, hk, he⟩ => ⟨(l + k, c), (IKids.mem_existingFrom ks l _ c).mpr ⟨k, rfl, hk⟩, he⟩⟩

theorem ITree.mem_locs (t : ITree β) (path : List (Nat × Nat)) (e : Loc β) :
    e ∈ t.locs path ↔ e = (t, path) ∨ ∃ k c, t.kids.get? k = some c ∧ e ∈ c.locs (path ++ [(t.idx, k)]) := by
  cases t with
  | node i v ks => rw [ITree.locs, List.mem_cons, IKids.mem_locs]; simp only [Nat.zero_add]; rfl

theorem ITree.locs_down (t : ITree β) : ∀ (path : List (Nat × Nat)), ∀ e ∈ t.locs path, ∀ k c,
    e.1.kids.get? k = some c → (c, e.2 ++ [(e.1.idx, k)]) ∈ t.locs path := by
  induction t using ITree.ind_get with
  | h t ih =>
    intro path e he k c hc
    rcases (t.mem_locs path e).mp he with rfl | ⟨k', c', hk', he'⟩
    · exact (t.mem_locs path _).mpr (Or.inr ⟨k, c, hc, c.locs_head _⟩)
    · exact (t.mem_locs path _).mpr (Or.inr ⟨k', c', hk', ih k' c' hk' _ e he' k c hc⟩)

theorem ITree.locs_up (t : ITree β) : ∀ (path : List (Nat × Nat)), ∀ e ∈ t.locs path, e = (t, path) ∨
    ∃ e' ∈ t.locs path, ∃ k, e'.1.kids.get? k = some e.1 ∧ e.2 = e'.2 ++ [(e'.1.idx, k)] := by
  induction t using ITree.ind_get with
  | h t ih =>
    intro path e he
    rcases (t.mem_locs path e).mp he with rfl | ⟨k', c', hk', he'⟩
    · exact Or.inl rfl
    · right
      rcases ih k' c' hk' _ e he' with rfl | ⟨e', he'', h⟩
      · exact ⟨(t, path), t.locs_head path, k', hk', rfl⟩
      · exact ⟨e', (t.mem_locs path _).mpr (Or.inr ⟨k', c', hk', he''⟩), h⟩

theorem IKids.locs_down (ks : IKids β) (p l : Nat) (path : List (Nat × Nat)) : ∀ e ∈ ks.locs p l path, ∀ k c,
    e.1.kids.get? k = some c → (c, e.2 ++ [(e.1.idx, k)]) ∈ ks.locs p l path := by
  intro e he k c hc
  obtain ⟨k', c', hk', he'⟩ := (ks.mem_locs p l path e).mp he
  exact (ks.mem_locs p l path _).mpr ⟨k', c', hk', c'.locs_down _ e he' k c hc⟩

theorem IKids.locs_up (ks : IKids β) (p l : Nat) (path : List (Nat × Nat)) : ∀ e ∈ ks.locs p l path,
    (∃ k, ks.get? k = some e.1 ∧ e.2 = path ++ [(p, l + k)]) ∨
    ∃ e' ∈ ks.locs p l path, ∃ k, e'.1.kids.get? k = some e.1 ∧ e.2 = e'.2 ++ [(e'.1.idx, k)] := by
  intro e he
  obtain ⟨k', c', hk', he'⟩ := (ks.mem_locs p l path e).mp he
  rcases c'.locs_up _ e he' with rfl | ⟨e', he'', h⟩
  · exact Or.inl ⟨k', hk', rfl⟩
  · exact Or.inr ⟨e', (ks.mem_locs p l path _).mpr ⟨k', c', hk', he''⟩, h⟩

theorem ITree.at_loc (t : ITree β) (hnd : t.indices.Nodup) : ∀ e ∈ t.locs [],
    t.find? e.1.idx = some e.1 ∧ t.pathTo? e.1.idx = some e.2 ∧ t.parentOf? e.1.idx = e.2.getLast? := by
  rw [← t.locs_idx] at hnd
  intro e he
  obtain ⟨h1, h2, h3⟩ := (lookups_both e.1.idx).1 t []
  refine ⟨h1.trans (lookup_mem _ _ hnd e he), Option.map_id'.symm.trans (h2.trans (lookup_mem _ _ hnd e he)),
    (h3.trans ?_).trans (lookup_mem (·.2.getLast?) _ hnd e he)⟩
  -- the root's own entry has the empty path, in which `getLast?` sees nothing: no need to leave it out
  cases t with
  | node j v ks => rw [ITree.locs, List.tail_cons, lookup_cons_node]; split <;> rfl

theorem IKids.at_loc (ks : IKids β) (p l : Nat) (hnd : ks.indices.Nodup) : ∀ e ∈ ks.locs p l [],
    ks.find? e.1.idx = some e.1 ∧ ks.pathTo? p l e.1.idx = some e.2 ∧ ks.parentOf? p l e.1.idx = e.2.getLast? := by
  rw [← ks.locs_idx p l] at hnd
  intro e he
  obtain ⟨h1, h2, h3⟩ := (lookups_both e.1.idx).2 ks p l []
  exact ⟨h1.trans (lookup_mem _ _ hnd e he), Option.map_id'.symm.trans (h2.trans (lookup_mem _ _ hnd e he)),
    h3.trans (lookup_mem _ _ hnd e he)⟩

theorem ITree.find?_idx (t : ITree β) (i : Nat) (s : ITree β) (h : t.find? i = some s) : s.idx = i := by
  rw [ITree.find?_eq_lookup] at h
  obtain ⟨e, _, hi, he⟩ := lookup_some _ _ _ _ h
  cases he; exact hi

theorem IKids.find?_idx (ks : IKids β) (i : Nat) (s : ITree β) (h : ks.find? i = some s) : s.idx = i := by
  rw [IKids.find?_eq_lookup ks 0 0] at h
  obtain ⟨e, _, hi, he⟩ := lookup_some _ _ _ _ h
  cases he; exact hi

theorem ITree.find?_none (t : ITree β) (i : Nat) : t.find? i = none ↔ i ∉ t.indices := by
  rw [ITree.find?_eq_lookup, ← ITree.locs_idx]
  exact lookup_eq_none_iff (fun e => some e.1) (fun _ h => nomatch h) _ i

theorem IKids.find?_none (ks : IKids β) (i : Nat) : ks.find? i = none ↔ i ∉ ks.indices := by
  rw [IKids.find?_eq_lookup ks 0 0, ← IKids.locs_idx ks 0 0]
  exact lookup_eq_none_iff (fun e => some e.1) (fun _ h => nomatch h) _ i

theorem ITree.find?_of_sub (t : ITree β) (hnd : t.indices.Nodup) :
    ∀ sq ∈ t.subs none, t.find? sq.1.idx = some sq.1 := by
  rw [← ITree.locs_sub, List.forall_mem_map]
  exact fun e he => (t.at_loc hnd e he).1

theorem IKids.find?_of_sub (ks : IKids β) (p : Nat) (hnd : ks.indices.Nodup) :
    ∀ sq ∈ ks.subs p, ks.find? sq.1.idx = some sq.1 := by
  rw [← IKids.locs_sub ks p 0, List.forall_mem_map]
  exact fun e he => (ks.at_loc p 0 hnd e he).1

theorem IKids.parentOf?_none (ks : IKids β) (p l i : Nat) (h : i ∉ ks.indices) : ks.parentOf? p l i = none := by
  rw [((lookups_both i).2 ks p l []).2.2]
  exact lookup_eq_none _ _ i (by rwa [IKids.locs_idx])

theorem ITree.parentOf?_of_child (t : ITree β) (hnd : t.indices.Nodup) :
    ∀ sq ∈ t.subs none, ∀ l c, sq.1.kids.get? l = some c → t.parentOf? c.idx = some (sq.1.idx, l) := by
  rw [← ITree.locs_sub, List.forall_mem_map]
  exact fun e he l c hc => (t.at_loc hnd _ (t.locs_down [] e he l c hc)).2.2.trans List.getLast?_concat

theorem IKids.parentOf?_of_child (ks : IKids β) (p l0 : Nat) (hnd : ks.indices.Nodup) :
    ∀ sq ∈ ks.subs p, ∀ l c, sq.1.kids.get? l = some c → ks.parentOf? p l0 c.idx = some (sq.1.idx, l) := by
  rw [← IKids.locs_sub ks p l0, List.forall_mem_map]
  exact fun e he l c hc => (ks.at_loc p l0 hnd _ (ks.locs_down p l0 [] e he l c hc)).2.2.trans List.getLast?_concat

theorem Loc.sub_concat (s : ITree β) (q : List (Nat × Nat)) (j k : Nat) : Loc.sub (s, q ++ [(j, k)]) = (s, some j) := by
  rw [Loc.sub, List.getLast?_concat]; rfl

theorem ITree.subs_down (t : ITree β) :
    ∀ sq ∈ t.subs none, ∀ c ∈ sq.1.kids.members, (c, some sq.1.idx) ∈ t.subs none := by
  rw [← ITree.locs_sub, List.forall_mem_map]
  intro e he c hc
  obtain ⟨k, hk⟩ := (IKids.mem_members _ c).mp hc
  exact List.mem_map.mpr ⟨_, t.locs_down [] e he k c hk, Loc.sub_concat ..⟩

theorem IKids.subs_down (ks : IKids β) (p : Nat) :
    (∀ c ∈ ks.members, (c, some p) ∈ ks.subs p) ∧
    (∀ sq ∈ ks.subs p, ∀ c ∈ sq.1.kids.members, (c, some sq.1.idx) ∈ ks.subs p) := by
  rw [← IKids.locs_sub ks p 0, List.forall_mem_map]
  refine ⟨fun c hc => ?_, fun e he c hc => ?_⟩
  · obtain ⟨k, hk⟩ := (ks.mem_members c).mp hc
    exact List.mem_map.mpr ⟨_, (ks.mem_locs p 0 [] _).mpr ⟨k, c, hk, c.locs_head _⟩, Loc.sub_concat ..⟩
  · obtain ⟨k, hk⟩ := (IKids.mem_members _ c).mp hc
    exact List.mem_map.mpr ⟨_, ks.locs_down p 0 [] e he k c hk, Loc.sub_concat ..⟩

theorem ITree.subs_up (t : ITree β) :
    ∀ sq ∈ t.subs none, sq = (t, none) ∨ ∃ sq' ∈ t.subs none, sq.2 = some sq'.1.idx ∧ sq.1 ∈ sq'.1.kids.members := by
  rw [← ITree.locs_sub, List.forall_mem_map]
  rintro ⟨s, q⟩ he
  rcases t.locs_up [] _ he with h | ⟨e', he', k, h1, rfl⟩
  · exact Or.inl (congrArg Loc.sub h)
  · exact Or.inr ⟨_, List.mem_map_of_mem he', congrArg Prod.snd (Loc.sub_concat ..), (IKids.mem_members _ _).mpr ⟨k, h1⟩⟩

theorem IKids.subs_up (ks : IKids β) (p : Nat) :
    ∀ sq ∈ ks.subs p, (sq.2 = some p ∧ sq.1 ∈ ks.members) ∨
      ∃ sq' ∈ ks.subs p, sq.2 = some sq'.1.idx ∧ sq.1 ∈ sq'.1.kids.members := by
  rw [← IKids.locs_sub ks p 0, List.forall_mem_map]
  rintro ⟨s, q⟩ he
  rcases ks.locs_up p 0 [] _ he with ⟨k, h1, rfl⟩ | ⟨e', he', k, h1, rfl⟩
  · exact Or.inl ⟨congrArg Prod.snd (Loc.sub_concat ..), (IKids.mem_members _ _).mpr ⟨k, h1⟩⟩
  · exact Or.inr ⟨_, List.mem_map_of_mem he', congrArg Prod.snd (Loc.sub_concat ..), (IKids.mem_members _ _).mpr ⟨k, h1⟩⟩

theorem IKids.arena_parent (ks : IKids β) (p : Nat) : ∀ nd ∈ ks.toArenaAux p, nd.parent.isSome = true := by
  intro nd hnd
  rw [IKids.toArenaAux_eq_subs] at hnd
  obtain ⟨sq, hsq, rfl⟩ := List.mem_map.mp hnd
  rcases IKids.subs_up ks p sq hsq with ⟨h, _⟩ | ⟨_, _, h, _⟩ <;> exact congrArg Option.isSome h

theorem ITree.arena_tail_parent (t : ITree β) (p : Option Nat) :
    ∀ nd ∈ (t.toArenaAux p).tail, nd.parent.isSome = true := by
  cases t with | node i v ks => exact IKids.arena_parent ks i

theorem ITree.arena_parent_mem (t : ITree β) (b : ANode β) (hb : b ∈ t.toArena) (p : Nat) (hp : b.parent = some p) :
    ∃ a ∈ t.toArena, a.idx = p := by
  obtain ⟨sb, hsb, rfl⟩ := ITree.mem_toArena.mp hb
  rcases ITree.subs_up t sb hsb with rfl | ⟨sq, hsq, h, _⟩
  · cases hp
  · exact ⟨_, ITree.mem_toArena.mpr ⟨sq, hsq, rfl⟩, Option.some.inj (h.symm.trans hp)⟩

theorem ITree.subs_inj (t : ITree β) (p : Option Nat) (hnd : t.indices.Nodup) :
    ∀ a ∈ t.subs p, ∀ b ∈ t.subs p, a.1.idx = b.1.idx → a = b := by
  rw [← ITree.subs_idx t p] at hnd
  exact List.inj_on_of_nodup_map hnd

theorem modifyAt_of_not_mem_both (f : ITree β → ITree β) (i : Nat) :
    (∀ t : ITree β, i ∉ t.indices → t.modifyAt f i = t) ∧ (∀ ks : IKids β, i ∉ ks.indices → ks.modifyAt f i = ks) := by
  refine ITree.ind ?_ (fun _ => rfl) ?_ ?_
  · intro j v ks ih h
    rw [ITree.indices, List.mem_cons, not_or] at h
    rw [ITree.modifyAt_miss (fun e => h.1 e.symm), ih h.2]
  · intro r ih h; rw [IKids.modifyAt, ih h]
  · intro t r iht ihr h
    rw [IKids.indices, List.mem_append, not_or] at h
    rw [IKids.modifyAt, iht h.1, ihr h.2]

theorem modifyAt_entries_both (f : ITree β → ITree β) (i : Nat) (s : ITree β) :
    (∀ t : ITree β, t.find? i = some s → t.indices.Nodup →
      ∃ pre suf, t.entries = pre ++ s.entries ++ suf ∧ (t.modifyAt f i).entries = pre ++ (f s).entries ++ suf) ∧
    (∀ ks : IKids β, ks.find? i = some s → ks.indices.Nodup →
      ∃ pre suf, ks.entries = pre ++ s.entries ++ suf ∧ (ks.modifyAt f i).entries = pre ++ (f s).entries ++ suf) := by
  refine ITree.ind ?_ (fun hs => nomatch hs) ?_ ?_
  · intro j v ks ih hs hnd
    rw [ITree.find?] at hs
    by_cases hj : j = i
    · rw [if_pos hj] at hs; cases hs
      exact ⟨[], [], (List.append_nil _).symm, by rw [ITree.modifyAt_hit hj]; exact (List.append_nil _).symm⟩
    · rw [if_neg hj] at hs
      obtain ⟨pre, suf, h1, h2⟩ := ih hs (List.nodup_cons.mp hnd).2
      exact ⟨(j, v) :: pre, suf, congrArg ((j, v) :: ·) h1, by rw [ITree.modifyAt_miss hj]; exact congrArg ((j, v) :: ·) h2⟩
  · intro r ih hs hnd
    exact ih hs hnd
  · intro t r iht ihr hs hnd
    rw [IKids.find?_cons_some] at hs
    obtain ⟨hndt, hndr, hdis⟩ := List.nodup_append.mp hnd
    rw [IKids.entries, IKids.modifyAt, IKids.entries]
    cases ht : t.find? i with
    | some s' =>
      rw [ht] at hs; cases hs
      obtain ⟨pre, suf, h1, h2⟩ := iht ht hndt
      have hi : i ∈ t.indices := Decidable.by_contra fun hn => by rw [(ITree.find?_none t i).mpr hn] at ht; cases ht
      rw [(modifyAt_of_not_mem_both f i).2 r (fun hm => hdis i hi i hm rfl), h1, h2]
      exact ⟨pre, suf ++ r.entries, (List.append_assoc _ _ _).symm ▸ rfl, (List.append_assoc _ _ _).symm ▸ rfl⟩
    | none =>
      rw [ht] at hs
      obtain ⟨pre, suf, h1, h2⟩ := ihr hs hndr
      rw [(modifyAt_of_not_mem_both f i).1 t ((ITree.find?_none t i).mp ht), h1, h2]
      exact ⟨t.entries ++ pre, suf, by simp only [List.append_assoc], by simp only [List.append_assoc]⟩

theorem ITree.modifyAt_entries (f : ITree β → ITree β) (t : ITree β) (i : Nat) (s : ITree β)
    (hs : t.find? i = some s) (hnd : t.indices.Nodup) :
    ∃ pre suf, t.entries = pre ++ s.entries ++ suf ∧ (t.modifyAt f i).entries = pre ++ (f s).entries ++ suf :=
  (modifyAt_entries_both f i s).1 t hs hnd
theorem IKids.modifyAt_entries (f : ITree β → ITree β) (ks : IKids β) (i : Nat) (s : ITree β)
    (hs : ks.find? i = some s) (hnd : ks.indices.Nodup) :
    ∃ pre suf, ks.entries = pre ++ s.entries ++ suf ∧ (ks.modifyAt f i).entries = pre ++ (f s).entries ++ suf :=
  (modifyAt_entries_both f i s).2 ks hs hnd

theorem ITree.modifyAt_sublist (f : ITree β → ITree β) (t : ITree β) (i : Nat) (s : ITree β)
    (hs : t.find? i = some s) (hnd : t.indices.Nodup) (h : (f s).entries.Sublist s.entries) :
    (t.modifyAt f i).entries.Sublist t.entries := by
  obtain ⟨pre, suf, h1, h2⟩ := ITree.modifyAt_entries f t i s hs hnd
  rw [h1, h2]
  exact ((List.Sublist.refl pre).append h).append (List.Sublist.refl suf)

end AV
