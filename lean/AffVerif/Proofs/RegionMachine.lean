import AffVerif.Proofs.TreeLemmas
import AffVerif.Proofs.IterLemmas
import AffVerif.Model.Regions
/-!
The `PolyhedraGen` machine (`DfsPre` + a stack of half-spaces that is cut back to the depth of the next node and
extended by the half-space of the edge from its parent, found by `parent()` look-ups in the arena) emits exactly the
reference stream `regionsSkipT`, for every skip schedule, provided the indices of the tree are pairwise distinct
(C12's invariant). Before that, the reference stream on its own: its items are those of the C13 reference traversal,
its entries are entries of `regionsT`, and without skips it is `regionsT`.
-/
set_option linter.unusedSectionVars false
namespace AV

section
variable {α : Type} [Zero α] [One α] [Add α] [Mul α] [Neg α] [Sub α]

/-- the DFS stack with, for every pending sub-tree, the path conditions the reference assigns to its root -/
abbrev RStack (α : Type) := List (Nat × PT α × Nat × List (Aff α))

def RStack.erase (S : RStack α) : Stack (Content α) := S.map (fun e => (e.1, e.2.1, e.2.2.1))

theorem erase_length (S : RStack α) : (RStack.erase S).length = S.length := List.length_map _

def SubOf (whole t : PT α) : Prop := ∃ q, (t, q) ∈ ITree.subs whole none

/-- what the machine needs to know about one pending entry, relative to the current predicate stack -/
def EntryOK (whole : PT α) (preds : List (Aff α)) (last : Nat) (e : Nat × PT α × Nat × List (Aff α)) : Prop :=
  SubOf whole e.2.1 ∧
  (e.1 = 0 → e.2.2.2 = [] ∧ ITree.parentOf? whole e.2.1.idx = none) ∧
  (∀ d', e.1 = d' + 1 → d' ≤ last ∧ ∃ pn l, ITree.parentOf? whole e.2.1.idx = some (pn.idx, l) ∧
      ITree.find? whole pn.idx = some pn ∧ e.2.2.2 = preds.take d' ++ [halfspace pn.val.aff l])

/-- the predicate stack holds one predicate per level down to the last item; the pending entries are ordered by depth,
    deepest first, and each has the path that the stack cut back to its depth gives it (`EntryOK`) -/
structure RInv (whole : PT α) (preds : List (Aff α)) (last : Nat) (S : RStack α) : Prop where
  len : preds.length = last
  sorted : S.Pairwise (fun a b => b.1 ≤ a.1)
  ok : ∀ e ∈ S, EntryOK whole preds last e

def refRegStack (sk : Nat → Nat) : RStack α → Nat → List (Item × List (Aff α)) × Nat
  | [], k => ([], k)
  | (d, t, r, path) :: rest, k =>
    let a := regionsSkipT sk t d r path k
    let b := refRegStack sk rest a.2
    (a.1 ++ b.1, b.2)

def rentries (d : Nat) (a : Aff α) (path : List (Aff α)) : PKids α → Nat → RStack α
  | .nil, _ => []
  | .cons none r, l => rentries d a path r (l+1)
  | .cons (some t) r, l => (d, t, r.count, path ++ [halfspace a l]) :: rentries d a path r (l+1)

end

-- classes as implicit binders: see DESIGN.md §2
variable {α : Type} {_ : Neg α}

theorem regionsSkip_items_both (sk : Nat → Nat) :
    (∀ (t : PT α) (d r : Nat) (path : List (Aff α)) (k : Nat),
      (regionsSkipT sk t d r path k).1.map (·.1) = (refDfsT sk d t r k).1 ∧
      (regionsSkipT sk t d r path k).2 = (refDfsT sk d t r k).2) ∧
    (∀ (ks : PKids α) (a : Aff α) (l d : Nat) (path : List (Aff α)) (k : Nat),
      (regionsSkipK sk ks a l d path k).1.map (·.1) = (refDfsK sk d ks k).1 ∧
      (regionsSkipK sk ks a l d path k).2 = (refDfsK sk d ks k).2) := by
  refine ITree.ind ?_ (fun _ _ _ _ _ => ⟨rfl, rfl⟩) ?_ ?_
  · intro i c ks ih d r path k
    rw [regionsSkipT, refDfsT]
    split
    · exact ⟨rfl, rfl⟩
    · exact ⟨congrArg _ (ih c.aff 0 (d+1) path (k+1)).1, (ih c.aff 0 (d+1) path (k+1)).2⟩
  · intro r ih a l d path k; exact ih a (l+1) d path k
  · intro t r iht ihr a l d path k
    obtain ⟨h1, h2⟩ := iht d r.count (path ++ [halfspace a l]) k
    rw [regionsSkipK, refDfsK, List.map_append, h1, h2]
    exact ⟨congrArg _ (ihr a (l+1) d path _).1, (ihr a (l+1) d path _).2⟩

theorem regionsSkip_sub_both (sk : Nat → Nat) :
    (∀ (t : PT α) (d r : Nat) (path : List (Aff α)) (k : Nat),
      ∀ e ∈ (regionsSkipT sk t d r path k).1, e ∈ regionsT t d r path) ∧
    (∀ (ks : PKids α) (a : Aff α) (l d : Nat) (path : List (Aff α)) (k : Nat),
      ∀ e ∈ (regionsSkipK sk ks a l d path k).1, e ∈ regionsK ks a l d path) := by
  refine ITree.ind ?_ (fun _ _ _ _ _ _ he => nomatch he) ?_ ?_
  · intro i c ks ih d r path k e he
    rw [regionsSkipT] at he
    rw [regionsT]
    split at he
    · exact List.mem_cons.mpr (Or.inl (List.mem_singleton.mp he))
    · exact (List.mem_cons.mp he).elim (fun h => h ▸ List.mem_cons_self)
        (fun h => List.mem_cons_of_mem _ (ih c.aff 0 (d+1) path (k+1) e h))
  · intro r ih a l d path k; exact ih a (l+1) d path k
  · intro t r iht ihr a l d path k e he
    rw [regionsK]
    exact (List.mem_append.mp he).elim (fun h => List.mem_append_left _ (iht d r.count _ k e h))
      (fun h => List.mem_append_right _ (ihr a (l+1) d path _ e h))

theorem regionsSkip_noskip_both :
    (∀ (t : PT α) (d r : Nat) (path : List (Aff α)) (k : Nat),
      (regionsSkipT (fun _ => 0) t d r path k).1 = regionsT t d r path) ∧
    (∀ (ks : PKids α) (a : Aff α) (l d : Nat) (path : List (Aff α)) (k : Nat),
      (regionsSkipK (fun _ => 0) ks a l d path k).1 = regionsK ks a l d path) :=
  -- the skip test `(fun _ => 0) k ≠ 0` evaluates to `False`, so both sides unfold to the same head and the same recursion
  ITree.ind (fun i c _ ih d r path k => congrArg (((⟨d, i, r⟩ : Item), path) :: ·) (ih c.aff 0 (d+1) path (k+1)))
    (fun _ _ _ _ _ => rfl) (fun _ ih a l d path k => ih a (l+1) d path k)
    (fun _ r iht ihr a l d path k => congrArg₂ (· ++ ·) (iht d r.count _ k) (ihr a (l+1) d path _))

theorem refRegStack_append (sk : Nat → Nat) (S1 S2 : RStack α) (k : Nat) :
    refRegStack sk (S1 ++ S2) k =
      ((refRegStack sk S1 k).1 ++ (refRegStack sk S2 (refRegStack sk S1 k).2).1,
       (refRegStack sk S2 (refRegStack sk S1 k).2).2) := by
  induction S1 generalizing k with
  | nil => rfl
  | cons e S1 ih => simp only [List.cons_append, refRegStack, ih, List.append_assoc]

theorem refRegStack_rentries (sk : Nat → Nat) (d : Nat) (a : Aff α) (path : List (Aff α)) (ks : PKids α) (l k : Nat) :
    refRegStack sk (rentries d a path ks l) k = regionsSkipK sk ks a l d path k := by
  induction ks using IKids.slots_ind generalizing l k with
  | nil => rfl
  | none r ih => rw [rentries, regionsSkipK, ih]
  | some t r ih => rw [rentries, refRegStack, regionsSkipK, ih]

theorem erase_rentries (d : Nat) (a : Aff α) (path : List (Aff α)) (ks : PKids α) (l : Nat) :
    RStack.erase (rentries d a path ks l) = entries d ks.childList := by
  rw [ks.childList_eq_members]
  induction ks using IKids.slots_ind generalizing l with
  | nil => rfl
  | none r ih => exact ih (l+1)
  | some t r ih => rw [IKids.members, entries, IKids.length_members, ← ih (l+1)]; rfl

theorem erase_append (S1 S2 : RStack α) : RStack.erase (S1 ++ S2) = RStack.erase S1 ++ RStack.erase S2 :=
  List.map_append

theorem rentries_mem (d : Nat) (a : Aff α) (path : List (Aff α)) (ks : PKids α) (l0 : Nat) :
    ∀ e ∈ rentries d a path ks l0, ∃ l c r, (l, c) ∈ ks.existingFrom l0 ∧ e = (d, c, r, path ++ [halfspace a l]) := by
  induction ks using IKids.slots_ind generalizing l0 with
  | nil => intro e he; cases he
  | none r ih => exact ih (l0+1)
  | some t r ih =>
    intro e he
    rcases List.mem_cons.mp he with rfl | he
    · exact ⟨l0, t, _, List.mem_cons_self, rfl⟩
    · obtain ⟨l, c, r', h1, h2⟩ := ih (l0+1) e he
      exact ⟨l, c, r', List.mem_cons_of_mem _ h1, h2⟩

/-- `PolyhedraGen::next` drops `1 + last_depth - depth` predicates; with one predicate per level down to the last
    item that leaves those of the levels above the next node -/
theorem cut_eq_take {γ : Type} (preds : List γ) (d : Nat) :
    (if d ≤ preds.length then preds.take (preds.length - (1 + preds.length - d)) else preds) = preds.take (d - 1) := by
  by_cases h : d ≤ preds.length
  · rw [if_pos h, Nat.add_comm 1, Nat.sub_add_comm h, Nat.sub_add_eq, Nat.sub_sub_self h]
  · rw [if_neg h, List.take_of_length_le (Nat.le_sub_one_of_lt (Nat.lt_of_not_le h))]

theorem pgen_preds (whole : PT α) (preds : List (Aff α)) (d : Nat) (t : PT α) (r : Nat) (path : List (Aff α))
    (hok : EntryOK whole preds preds.length (d, t, r, path)) :
    PGen.predsNext whole preds preds.length ⟨d, t.idx, r⟩ = path := by
  obtain ⟨_, h0, h1⟩ := hok
  cases d with
  | zero =>
    obtain ⟨hp, hpar⟩ := h0 rfl
    simp only [PGen.predsNext, cut_eq_take, hpar]
    exact hp.symm
  | succ d' =>
    obtain ⟨hle, pn, l, hpar, hfind, hp⟩ := h1 d' rfl
    simp only [PGen.predsNext, cut_eq_take, hpar, hfind]
    exact hp.symm

theorem EntryOK.path_take {whole : PT α} {preds : List (Aff α)} {d : Nat} {t : PT α} {r : Nat} {path : List (Aff α)}
    (hok : EntryOK whole preds preds.length (d, t, r, path)) :
    path.length = d ∧ ∀ d2, d2 < d → path.take d2 = preds.take d2 := by
  cases d with
  | zero => exact ⟨congrArg List.length (hok.2.1 rfl).1, fun _ h => nomatch h⟩
  | succ d' =>
    obtain ⟨hle, _, _, _, _, hp⟩ := hok.2.2 d' rfl
    have hlen : (preds.take d').length = d' := List.length_take.trans (Nat.min_eq_left hle)
    change path = _ at hp
    subst hp
    refine ⟨List.length_append.trans (congrArg (· + 1) hlen), fun d2 h2 => ?_⟩
    rw [List.take_append_of_le_length (Nat.le_trans (Nat.le_of_lt_succ h2) (Nat.le_of_eq hlen.symm)), List.take_take,
      Nat.min_eq_left (Nat.le_of_lt_succ h2)]

theorem rinv_next (whole : PT α) (hnd : whole.indices.Nodup) (preds : List (Aff α))
    (d : Nat) (i : Nat) (c : Content α) (ks : PKids α) (r : Nat) (path : List (Aff α)) (rest : RStack α)
    (h : RInv whole preds preds.length ((d, .node i c ks, r, path) :: rest)) :
    RInv whole path d (rentries (d+1) c.aff path ks 0 ++ rest) := by
  obtain ⟨_, hsorted, hok⟩ := h
  obtain ⟨hpl, htake⟩ := (hok _ List.mem_cons_self).path_take
  obtain ⟨q, hsub⟩ := (hok _ List.mem_cons_self).1
  rw [List.pairwise_cons] at hsorted
  refine ⟨hpl, ?_, fun e he => ?_⟩
  · -- the children all have depth d+1, the older entries at most d
    refine List.pairwise_append.mpr ⟨List.pairwise_of_forall_mem_list (fun a ha b hb => ?_), hsorted.2, fun a ha b hb => ?_⟩
    · obtain ⟨_, _, _, _, rfl⟩ := rentries_mem _ _ _ _ _ a ha
      obtain ⟨_, _, _, _, rfl⟩ := rentries_mem _ _ _ _ _ b hb
      exact Nat.le_refl _
    · obtain ⟨_, _, _, _, rfl⟩ := rentries_mem _ _ _ _ _ a ha
      exact Nat.le_succ_of_le (hsorted.1 b hb)
  · rcases List.mem_append.mp he with he | he
    · -- a child: its parent is the node just reported, whose path is the whole new predicate stack
      obtain ⟨_, c', r', hl, rfl⟩ := rentries_mem _ _ _ _ _ e he
      obtain ⟨k, rfl, hk⟩ := (IKids.mem_existingFrom ks 0 _ c').mp hl
      refine ⟨⟨some i, ITree.subs_down whole _ hsub c' ((IKids.mem_members _ c').mpr ⟨k, hk⟩)⟩,
        fun h0 => absurd h0 (Nat.succ_ne_zero d), fun d' hd' => ?_⟩
      cases hd'
      exact ⟨Nat.le_refl _, .node i c ks, k, ITree.parentOf?_of_child whole hnd _ hsub k c' hk,
        ITree.find?_of_sub whole hnd _ hsub, by rw [← hpl, List.take_length, Nat.zero_add]; rfl⟩
    · -- an older entry: its depth is at most d, and up to there the new stack `path` agrees with the old one
      obtain ⟨hs, h0, h1⟩ := hok e (List.mem_cons_of_mem _ he)
      refine ⟨hs, h0, fun d2 hd2 => ?_⟩
      have hlt : d2 < d := Nat.lt_of_succ_le (Nat.le_trans (Nat.le_of_eq hd2.symm) (hsorted.1 e he))
      obtain ⟨_, pn, l, hpar, hfind, hp⟩ := h1 d2 hd2
      exact ⟨Nat.le_of_lt hlt, pn, l, hpar, hfind, by rw [hp, htake d2 hlt]⟩

theorem pgen_skipN (n : Nat) (g : PGen α) : PGen.skipN n g = { g with iter := Dfs.skipN n g.iter } := by
  induction n generalizing g with
  | zero => rfl
  | succ n ih => rw [PGen.skipN, ih]; rfl

theorem pgen_run_eq_ref (whole : PT α) (hnd : whole.indices.Nodup) (sk : Nat → Nat) (fuel : Nat) :
    ∀ (S : RStack α) (g : PGen α) (k : Nat), g.iter.stack = RStack.erase S → RInv whole g.preds g.lastDepth S →
      stackSize (RStack.erase S) ≤ fuel → PGen.run whole sk fuel g k = (refRegStack sk S k).1 := by
  induction fuel with
  | zero =>
    intro S g k _ _ hf
    rw [List.eq_nil_of_length_eq_zero
      ((List.length_map _).symm.trans (Nat.le_zero.mp (Nat.le_trans (stackSize_ge_length (RStack.erase S)) hf)))]
    rfl
  | succ fuel ih =>
    intro S g k hS hinv hf
    obtain ⟨preds, it, last⟩ := g
    cases S with
    | nil =>
      obtain ⟨st, lp, lb, ub⟩ := it
      cases hS; rfl
    | cons e rest =>
      obtain ⟨d, ⟨i, c, ks⟩, r, path⟩ := e
      have hlen : preds.length = last := hinv.len
      subst hlen
      have hsz : stackSize (entries (d+1) ks.childList ++ RStack.erase rest) ≤ fuel :=
        Nat.le_of_succ_le_succ (Nat.le_trans (Nat.le_of_eq (stackSize_round d (d+1) (.node i c ks) r _).symm) hf)
      have hnext := rinv_next whole hnd preds d i c ks r path rest hinv
      obtain ⟨s', hn, hst⟩ := Dfs.next_of_stack it d (.node i c ks) r (RStack.erase rest) hS
      have hst := hst (sk k)
      have hrun : PGen.run whole sk (fuel+1) ⟨preds, it, preds.length⟩ k =
          (⟨d, i, r⟩, path) :: PGen.run whole sk fuel ⟨path, Dfs.skipN (sk k) s', d⟩ (k+1) := by
        rw [PGen.run, PGen.next]
        simp only [hn, pgen_preds whole preds d _ r path (hinv.ok _ List.mem_cons_self), pgen_skipN]
        rfl
      rw [hrun, refRegStack, regionsSkipT]
      split at hst
      · rw [if_pos ‹_›, ih rest _ (k+1) hst
          ⟨hnext.len, (List.pairwise_append.mp hnext.sorted).2.1, fun e he => hnext.ok e (List.mem_append_right _ he)⟩
          (Nat.le_trans (stackSize_append _ _ ▸ Nat.le_add_left _ _) hsz)]
        rfl
      · rw [if_neg ‹_›, ih (rentries (d+1) c.aff path ks 0 ++ rest) _ (k+1)
            (by rw [hst, erase_append, erase_rentries]; rfl) hnext
            (by rw [erase_append, erase_rentries]; exact hsz),
          refRegStack_append, refRegStack_rentries]
        rfl
end AV
