import AffVerif.Proofs.ElimIdem
import AffVerif.Proofs.CachePlant
/-!
Two clauses the sweep establishes at every node, instances of `PT.stSound_elim_both`. `StWNE`: a witness list is never
empty (the code asserts it in `phase_one`: "nodes with the state FeasibleWitness should contain a non-empty vector"),
for every LP behaviour. `StNE`: moreover a node cached `Feasible` has a point in its closed path polytope (the state
comes from an `Unbounded` answer only). With the witness clause and "no undecided node": the first clause of C06.
-/
set_option linter.unusedSectionVars false
namespace AV
-- `InPath` and `Poly.containsTol` take these two classes; the third comes where a law of the order is used
variable {α : Type} [Field α] [LinearOrder α]

/-- `mirror_points` never answers `Some` with no point -/
def MirrorNonempty {σ : Type} (mirror : MirrorOracle σ α) : Prop :=
  ∀ s node poly ws k pts s', mirror s node poly ws k = (some pts, s') → pts ≠ []

/-- an `Unbounded` answer is given for non-empty sets only -/
def UnboundedNonempty {σ : Type} (lp : LPOracle σ α) : Prop :=
  ∀ s p c, (lp s p c).1 = LPAnswer.unbounded → ∃ x, Poly.Mem p x

/-- a cached witness list is not empty (the `assert!` of `phase_one`) -/
def StWNE (_path : List (Aff α)) (st : NState α) : Prop := ∀ ws, st = .witness ws → ws ≠ []

theorem stWNE_pred : StPred (StWNE (α := α)) := ⟨fun _ _ _ _ h => h⟩

theorem stWNE_indeterminate (path : List (Aff α)) : StWNE path (.indeterminate : NState α) :=
  fun _ h => by cases h

theorem Decided.stWNE {σ : Type} {tol : α} {O : Oracles σ α} {s : σ} {node : Nat} {pst : NState α}
    {path : List (Aff α)} {hyper : Aff α} {n : Nat} {r : NState α} (hd : Decided tol O s node pst path hyper n r)
    (hmn : MirrorNonempty O.mirror) : StWNE (path ++ [hyper]) r := by
  intro ws' hw
  cases hd with
  | inherited ws hpw hne => cases hw; exact hne
  | mirrored ws pts s' hpw hmi => cases hw; exact hmn s node _ ws 8 _ s' hmi
  | solved s' _ hs =>
    cases hs with
    | point p hc => cases hw; exact List.cons_ne_nil _ _
    | _ => cases hw

theorem stWNE_plant (path : List (Aff α)) (st : NState α) (pts : List (List α)) (h : StWNE path st) :
    StWNE path (NState.plant pts st) := by
  cases st with
  | witness ws =>
    intro ws' hw
    cases hw
    exact fun e => h ws rfl (List.append_eq_nil_iff.1 e).1
  | _ => exact h

/-- witness lists are non-empty and a `Feasible` mark sits on a non-empty region -/
def StNE (path : List (Aff α)) (st : NState α) : Prop :=
  (∀ ws, st = .witness ws → ws ≠ []) ∧ (st = .feasible → ∃ x, InPath path x)

theorem stNE_pred : StPred (StNE (α := α)) :=
  ⟨fun p q hqp st h => ⟨h.1, fun hf => by
    obtain ⟨x, hx⟩ := h.2 hf
    exact ⟨x, fun g hg => hx g (hqp g hg)⟩⟩⟩

theorem stNE_indeterminate (path : List (Aff α)) : StNE path (.indeterminate : NState α) :=
  ⟨stWNE_indeterminate path, fun h => (by cases h)⟩

theorem stNE_plant (path : List (Aff α)) (st : NState α) (pts : List (List α)) (h : StNE path st) :
    StNE path (NState.plant pts st) :=
  ⟨stWNE_plant path st pts h.1, fun hf => h.2 (by cases st with | witness _ => cases hf | _ => exact hf)⟩

section ordered
variable [IsStrictOrderedRing α]

theorem Decided.stNE {σ : Type} {tol : α} {O : Oracles σ α} {s : σ} {node : Nat} {pst : NState α}
    {path : List (Aff α)} {hyper : Aff α} {n : Nat} {r : NState α} (hd : Decided tol O s node pst path hyper n r)
    (hmn : MirrorNonempty O.mirror) (hub : UnboundedNonempty O.lp) : StNE (path ++ [hyper]) r := by
  refine ⟨hd.stWNE hmn, fun h => ?_⟩
  cases hd with
  | solved s' _ hs =>
    cases hs with
    | unbounded hu => exact (hub s' _ _ hu).imp fun x => (Poly.mem_intersectionN n _ x).1
    | _ => cases h
  | _ => cases h

mutual
/-- the first clause of C06 below a node: every child is marked infeasible or has a point within `tol` of all its path
    conditions, and so on below it -/
def PT.Effective (tol : α) : List (Aff α) → PT α → Prop
  | path, .node _ c ks => PKids.Effective tol path c.aff 0 ks
def PKids.Effective (tol : α) : List (Aff α) → Aff α → Nat → PKids α → Prop
  | _, _, _, .nil => True
  | path, a, l, .cons none r => PKids.Effective tol path a (l+1) r
  | path, a, l, .cons (some t) r =>
    (t.val.state = .infeasible ∨
      ((∃ x, InPathTol tol (path ++ [halfspace a l]) x) ∧ PT.Effective tol (path ++ [halfspace a l]) t)) ∧
    PKids.Effective tol path a (l+1) r
end

theorem PKids.effective_of (tol : α) (htol : 0 ≤ tol) (ks : PKids α) (path : List (Aff α)) (a : Aff α) (l : Nat)
    (h1 : PKids.StSound (StWit tol) path a l ks) (h2 : PKids.StSound StNE path a l ks) (hs : PKids.Settled ks) :
    PKids.Effective tol path a l ks := by
  induction ks using IKids.nested_ind generalizing path a l with
  | nil => trivial
  | none r ih => exact ih path a (l+1) h1 h2 hs
  | some i c ks r ihk ih =>
    refine ⟨?_, ih path a (l+1) h1.2 h2.2 hs.2⟩
    rcases hs.1 with hinf | ⟨hfeas, hbelow⟩
    · exact Or.inl hinf
    · right
      refine ⟨?_, ihk _ c.aff 0 h1.1.2 h2.1.2 hbelow⟩
      -- a point of the region: behind a `Feasible` mark, or a stored witness
      rcases isFeasible_cases _ hfeas with hf | ⟨ws, hw⟩
      · obtain ⟨x, hx⟩ := h2.1.1.2 hf
        exact ⟨x, fun g hg => Poly.containsTol_of_mem htol (hx g hg)⟩
      · obtain ⟨w, hm⟩ := List.exists_mem_of_ne_nil ws (h2.1.1.1 ws hw)
        exact ⟨w, h1.1.1 ws hw w hm⟩

theorem PT.effective_of (tol : α) (htol : 0 ≤ tol) (t : PT α) (path : List (Aff α))
    (h1 : PT.StSound (StWit tol) path t) (h2 : PT.StSound StNE path t) (hs : PT.SettledBelow t) :
    PT.Effective tol path t :=
  match t with
  | .node _ c ks => PKids.effective_of tol htol ks path c.aff 0 h1.2 h2.2 hs

theorem decisive_of_lp_decides {σ : Type} (tol : α) (O : Oracles σ α)
    (h : ∀ s p c, (O.lp s p c).1 = .unbounded ∨ (O.lp s p c).1 = .infeasible) : Decisive tol O := by
  intro s node pst path hyper n
  have key : ∀ r, Decided tol O s node pst path hyper n r → r ≠ .indeterminate := fun r hd => by
    cases hd with
    | solved s' _ hs =>
      cases hs with
      | undecided h1 h2 => exact ((h s' _ _).elim h1 h2).elim
      | _ => exact fun e => (nomatch e)
    | _ => exact fun e => (nomatch e)
  exact key _ (decideNode_decided tol O s node pst path hyper n)

end ordered
end AV
