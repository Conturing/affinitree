import AffVerif.Proofs.CoordLemmas
import AffVerif.Model.Compose
/-!
The polytope reading of `Aff` through its list of rows. The operations of the model map, filter or append `Aff.rows`;
the `rows_*` equations say how for those that need more than unfolding, and `Poly.mem_of_rows_map`,
`forall_mem_filter_iff`, `Poly.Mem.of_subset` carry membership across, so that no proof about an operation has to induct
over `mat` and `bias` in parallel. The value `Aff.apply` and the slacks `Poly.distanceRaw` are maps over the rows as well;
`contains` compares each slack `b − a·x` with `−tol` (`Poly.containsTol_iff`). Only the part over the ordered
field at the end uses laws of the order; the rest holds of the bare operations.
-/
set_option linter.unusedSectionVars false
namespace AV

section lists
variable {β γ β' γ' : Type}

theorem zip_map_zipWith (f : β → β') (g : β → γ → γ') (M : List β) (b : List γ) :
    (M.map f).zip (List.zipWith g M b) = (M.zip b).map (fun rb => (f rb.1, g rb.1 rb.2)) := by
  induction M generalizing b with
  | nil => rfl
  | cons r M ih => cases b with
    | nil => rfl
    | cons b0 b => rw [List.map_cons, List.zipWith_cons_cons, List.zip_cons_cons, List.zip_cons_cons, List.map_cons, ih]

theorem forall_mem_zip_fst {P : β → Prop} {l : List β} {s : List γ} (h : l.length ≤ s.length) :
    (∀ q ∈ l.zip s, P q.1) ↔ ∀ a ∈ l, P a := by
  rw [← List.forall_mem_map (f := Prod.fst) (P := P), List.map_fst_zip h]

theorem forall_mem_filter_iff {P : β → Prop} {k : β → Bool} {l : List β}
    (h : ∀ b ∈ l, k b = false → P b) : (∀ b ∈ l.filter k, P b) ↔ ∀ b ∈ l, P b := by
  rw [List.forall_mem_filter]
  refine forall₂_congr fun b hb => ⟨fun hk => ?_, fun hp _ => hp⟩
  cases hkb : k b
  · exact h b hb hkb
  · exact hk hkb

end lists

section Structure
-- classes as implicit binders: see DESIGN.md §2
variable {α : Type} {_ : Zero α} {_ : One α} {_ : Add α} {_ : Mul α} {_ : Neg α} {_ : Sub α} {_ : LE α}
  {_ : DecidableLE α}

theorem Aff.rows_ofRows (n : Nat) (rs : List (List α × α)) : (Aff.ofRows n rs).rows = rs := by
  unfold Aff.ofRows Aff.rows
  rw [List.zip_map', List.map_id']

theorem Poly.rows_translate (p : Aff α) (d : List α) :
    (Poly.translate p d).rows = p.rows.map (fun rb => (rb.1, rb.2 + dot rb.1 d)) := by
  unfold Poly.translate Aff.rows matVec
  simp only [vadd_eq_zipWith, List.zipWith_map_right]
  rw [List.zipWith_comm]
  exact (congrArg (List.zip · _) (List.map_id _).symm).trans (zip_map_zipWith id _ _ _)

/-- also the rows of `Aff.updDecision p f`, which has the same body -/
theorem Poly.rows_applyPre (p f : Aff α) :
    (Poly.applyPre p f).rows = p.rows.map (fun rb => (vecMat f.indim rb.1 f.mat, -dot rb.1 f.bias + rb.2)) := by
  unfold Poly.applyPre Aff.rows matMul matVec vneg
  simp only [vadd_eq_zipWith, List.map_map, List.zipWith_map_left]
  exact zip_map_zipWith _ _ _ _

theorem Poly.rows_applyPost (p : Aff α) (n : Nat) (inv : Mat α) (c : List α) :
    (Poly.applyPost p n inv c).rows =
      p.rows.map (fun rb => (vecMat n rb.1 inv, dot rb.1 (matVec inv c) + rb.2)) := by
  unfold Poly.applyPost Aff.rows matMul
  conv_lhs => rw [matVec]
  simp only [vadd_eq_zipWith, List.zipWith_map_left]
  exact zip_map_zipWith _ _ _ _

theorem Poly.rows_fromNormal (n : Nat) (N P : Mat α) :
    (Poly.fromNormal n N P).rows = (N.zip P).map (fun np => (vneg np.1, -dot np.1 np.2)) := by
  unfold Poly.fromNormal Aff.rows matNeg
  conv_lhs => rw [vneg]
  rw [List.map_zipWith]
  exact zip_map_zipWith _ _ _ _

theorem Poly.distanceRaw_eq (p : Aff α) (x : List α) :
    Poly.distanceRaw p x = p.rows.map (fun rb => rb.2 - dot rb.1 x) := by
  unfold Poly.distanceRaw Aff.rows matVec
  rw [vsub_eq_zipWith, List.zipWith_map_right, List.zipWith_comm, List.zip_eq_zipWith, List.map_zipWith]

theorem Aff.apply_eq (f : Aff α) (x : List α) : f.apply x = f.rows.map (fun rb => dot rb.1 x + rb.2) := by
  unfold Aff.apply Aff.rows matVec
  rw [vadd_eq_zipWith, List.zipWith_map_left, List.zip_eq_zipWith, List.map_zipWith]

theorem removeRowsAux_cons (i : Nat) (idxs : List Nat) (r : List α × α) (rs : List (List α × α)) :
    Aff.removeRowsAux i idxs (r :: rs) =
      if idxs.contains i then Aff.removeRowsAux (i+1) idxs rs else r :: Aff.removeRowsAux (i+1) idxs rs := rfl

theorem removeRowsAux_eq (i : Nat) (idxs : List Nat) (rs : List (List α × α)) :
    Aff.removeRowsAux i idxs rs = ((rs.zipIdx i).filter (fun q => !idxs.contains q.2)).map (·.1) := by
  induction rs generalizing i with
  | nil => rfl
  | cons r rs ih =>
    rw [removeRowsAux_cons, List.zipIdx_cons, List.filter_cons, ih]
    by_cases hc : i ∈ idxs <;> simp [hc]

theorem Aff.rows_removeRows (p : Aff α) (idxs : List Nat) :
    (p.removeRows idxs).rows = ((p.rows.zipIdx).filter (fun q => !idxs.contains q.2)).map (·.1) := by
  unfold Aff.removeRows
  rw [Aff.rows_ofRows, removeRowsAux_eq]

theorem Aff.rows_getElem? (p : Aff α) (i : Nat) (rb : List α × α) (h : p.rows[i]? = some rb) :
    rb = (p.mat.getD i [], p.bias.getD i 0) := by
  rw [Aff.rows, List.getElem?_zip_eq_some] at h
  rw [List.getD_eq_getElem?_getD, List.getD_eq_getElem?_getD, h.1, h.2]; rfl

theorem labelBits_cons (r : List α) (rs : Mat α) (b : α) (bs x : List α) :
    labelBits (r :: rs) (b :: bs) x = (if dot r x - b ≤ 0 then 1 else 0) + 2 * labelBits rs bs x := rfl

theorem Poly.mem_ofRows (n : Nat) (rs : List (List α × α)) (x : List α) :
    Poly.Mem (Aff.ofRows n rs) x ↔ ∀ rb ∈ rs, dot rb.1 x ≤ rb.2 := by
  unfold Poly.Mem
  rw [Aff.rows_ofRows]

theorem Poly.mem_removeRows (p : Aff α) (idxs : List Nat) (x : List α) :
    Poly.Mem (p.removeRows idxs) x ↔ ∀ j ∉ idxs, ∀ rb, p.rows[j]? = some rb → dot rb.1 x ≤ rb.2 := by
  unfold Poly.Mem
  rw [Aff.rows_removeRows, List.forall_mem_map, List.forall_mem_filter]
  constructor
  · exact fun h j hj rb hrb => h (rb, j) (List.mk_mem_zipIdx_iff_getElem?.mpr hrb) (by simpa using hj)
  · rintro h ⟨rb, j⟩ hm hk
    exact h j (by simpa using hk) rb (List.mk_mem_zipIdx_iff_getElem?.mp hm)

theorem Poly.memb_iff (p : Aff α) (x : List α) : Poly.memb p x = true ↔ Poly.Mem p x := by
  simp only [Poly.memb, Poly.Mem, List.all_eq_true, decide_eq_true_eq]

theorem Poly.Mem.of_subset {p q : Aff α} {x : List α} (h : q.rows ⊆ p.rows) (hp : Poly.Mem p x) : Poly.Mem q x :=
  fun rb hrb => hp rb (h hrb)

theorem Poly.mem_singleton (r : List α) (b : α) (n : Nat) (x : List α) :
    Poly.Mem ⟨[r], [b], n⟩ x ↔ dot r x ≤ b :=
  List.forall_mem_singleton (p := fun rb : List α × α => dot rb.1 x ≤ rb.2)

theorem Poly.mem_replicate (M : Mat α) (c : α) (k n : Nat) (hk : M.length ≤ k) (x : List α) :
    Poly.Mem ⟨M, List.replicate k c, n⟩ x ↔ ∀ r ∈ M, dot r x ≤ c := by
  rw [← forall_mem_zip_fst (s := List.replicate k c) (by rwa [List.length_replicate])]
  exact forall₂_congr fun rb hrb => by rw [List.eq_of_mem_replicate (List.of_mem_zip hrb).2]

theorem Poly.mem_iff_getD (p : Aff α) (h : p.bias.length = p.mat.length) (x : List α) :
    Poly.Mem p x ↔ ∀ i < p.mat.length, dot (p.mat.getD i []) x ≤ p.bias.getD i 0 := by
  have : p.rows = (List.range p.mat.length).map (fun i => (p.mat.getD i [], p.bias.getD i 0)) := by
    rw [← List.zip_map', range_map_getD, ← h, range_map_getD]; rfl
  unfold Poly.Mem
  rw [this, List.forall_mem_map]
  simp only [List.mem_range]

theorem Poly.containsTol_iff (tol : α) (p : Aff α) (x : List α) :
    Poly.containsTol tol p x = true ↔ ∀ rb ∈ p.rows, -tol ≤ rb.2 - dot rb.1 x := by
  unfold Poly.containsTol
  rw [Poly.distanceRaw_eq, List.all_map, List.all_eq_true]
  simp only [Function.comp, decide_eq_true_eq]

theorem Poly.rows_intersectionN {n : Nat} {ps : List (Aff α)} (h : ps ≠ []) :
    (Poly.intersectionN n ps).rows = ps.flatMap Aff.rows := by
  cases ps with
  | nil => exact absurd rfl h
  | cons p ps => exact Aff.rows_ofRows n _

theorem Poly.containsTol_intersectionN {tol : α} {n : Nat} {ps : List (Aff α)} {x : List α}
    (h : Poly.containsTol tol (Poly.intersectionN n ps) x = true) : ∀ g ∈ ps, Poly.containsTol tol g x = true := by
  intro g hg
  rw [Poly.containsTol_iff, Poly.rows_intersectionN (List.ne_nil_of_mem hg)] at h
  exact (Poly.containsTol_iff tol g x).2 fun rb hrb => h rb (List.mem_flatMap.2 ⟨g, hg, hrb⟩)

/-- the label read off the rows: bit `i` says whether row `i` holds -/
theorem Aff.label_eq (d : Aff α) (x : List α) :
    d.label x = d.rows.foldr (fun rb l => (if dot rb.1 x - rb.2 ≤ 0 then 1 else 0) + 2 * l) 0 := by
  obtain ⟨M, b, n⟩ := d
  show labelBits M b x = (M.zip b).foldr _ 0
  induction M generalizing b with
  | nil => rfl
  | cons r rs ih => cases b with
    | nil => rfl
    | cons b0 bs => exact congrArg (_ + 2 * ·) (ih bs)

/-- the twin of `Poly.mem_of_rows_map` for labels: an operation that rewrites every row (`g`) and keeps the slack
    `a·x − b` — the new row read at `x`, the old one at `y` — keeps the label -/
theorem Aff.label_of_rows_map {p q : Aff α} {x y : List α} (g : List α × α → List α × α)
    (hq : q.rows = p.rows.map g) (h : ∀ rb ∈ p.rows, dot (g rb).1 x - (g rb).2 = dot rb.1 y - rb.2) :
    q.label x = p.label y := by
  rw [Aff.label_eq, Aff.label_eq, hq, List.foldr_map]
  generalize p.rows = l at h
  induction l with
  | nil => rfl
  | cons rb l ih =>
    rw [List.forall_mem_cons] at h
    rw [List.foldr_cons, List.foldr_cons, h.1, ih h.2]

end Structure

theorem dot_isZeroVec {α : Type} [Semiring α] [DecidableEq α] (a x : List α) (h : isZeroVec a = true) : dot a x = 0 :=
  dot_all_zero a x fun e he => beq_iff_eq.mp (List.all_eq_true.mp h e he)

variable {α : Type} [Field α] [LinearOrder α] [IsStrictOrderedRing α]

theorem mem_iff_zip (mat : Mat α) (bias : List α) (n : Nat) (x : List α) :
    Poly.Mem (⟨mat, bias, n⟩ : Aff α) x ↔ ∀ rb ∈ mat.zip bias, dot rb.1 x ≤ rb.2 := Iff.rfl

/-- an operation that rewrites every row (`g`) and keeps `a·x − b`, the new row read at `x`, the old one at `y` -/
theorem Poly.mem_of_rows_map {p q : Aff α} {x y : List α} (g : List α × α → List α × α)
    (hq : q.rows = p.rows.map g) (h : ∀ rb ∈ p.rows, dot (g rb).1 x - (g rb).2 = dot rb.1 y - rb.2) :
    Poly.Mem q x ↔ Poly.Mem p y := by
  unfold Poly.Mem
  rw [hq, List.forall_mem_map]
  exact forall₂_congr fun rb hrb => by rw [← OF.sub_nonpos, h rb hrb, OF.sub_nonpos]

theorem Poly.mem_unbounded (n : Nat) (x : List α) : Poly.Mem (Poly.unbounded n : Aff α) x := by
  unfold Poly.unbounded
  rw [Poly.mem_singleton, dot_zeros_left]
  exact zero_le_one

theorem Poly.not_mem_empty (n : Nat) (x : List α) : ¬ Poly.Mem (Poly.empty n : Aff α) x := by
  unfold Poly.empty
  rw [Poly.mem_singleton, dot_zeros_left, not_le]
  exact neg_one_lt_zero

theorem Poly.mem_intersectionN (n : Nat) (ps : List (Aff α)) (x : List α) :
    Poly.Mem (Poly.intersectionN n ps) x ↔ ∀ p ∈ ps, Poly.Mem p x := by
  by_cases h : ps = []
  · subst h
    exact iff_of_true (Poly.mem_unbounded n x) (List.forall_mem_nil _)
  · unfold Poly.Mem
    rw [Poly.rows_intersectionN h, List.forall_mem_flatMap]

theorem Poly.containsTol_of_mem {tol : α} (htol : 0 ≤ tol) {p : Aff α} {x : List α} (h : Poly.Mem p x) :
    Poly.containsTol tol p x = true :=
  (Poly.containsTol_iff tol p x).2 fun rb hrb => le_trans (OF.neg_nonpos.2 htol) (OF.sub_nonneg.2 (h rb hrb))

theorem label_oneRow (r : List α) (b : α) (n : Nat) (x : List α) :
    (⟨[r], [b], n⟩ : Aff α).label x = if dot r x ≤ b then 1 else 0 :=
  (Nat.add_zero _).trans (if_congr OF.sub_nonpos rfl rfl)

end AV
