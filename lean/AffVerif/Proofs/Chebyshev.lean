import AffVerif.Proofs.PolyLemmas
/-!
The Chebyshev-centre program (`chebyshev_center`): a point `(x, r)` satisfies the program exactly when `r ≥ 0` and the
closed ball of radius `r` around `x` lies in the polytope. The row norms are square roots, which are not field
operations: they enter as numbers `s ≥ 0` with `s² = a·a` (what the judge checks of the implementation's last column).
Cauchy–Schwarz comes from `|(a·u)•a − (a·a)•u|² ≥ 0`.
-/
set_option linter.unusedSectionVars false
namespace AV
variable {α : Type} [Field α] [LinearOrder α] [IsStrictOrderedRing α]

theorem dot_self_nonneg (a : List α) : 0 ≤ dot a a := by
  induction a with
  | nil => exact le_refl _
  | cons x a ih => exact add_nonneg (mul_self_nonneg x) ih

theorem dot_self_eq_zero (a : List α) (h : dot a a = 0) (x : List α) : dot a x = 0 := by
  induction a generalizing x with
  | nil => rfl
  | cons c a ih =>
    cases x with
    | nil => rfl
    | cons d x =>
      obtain ⟨hc, ha⟩ := (add_eq_zero_iff_of_nonneg (mul_self_nonneg c) (dot_self_nonneg a)).mp h
      rw [dot_cons, mul_self_eq_zero.mp hc, ih ha x, zero_mul, zero_add]

theorem cauchy_schwarz (a u : List α) (h : a.length = u.length) : dot a u * dot a u ≤ dot a a * dot u u := by
  rcases (dot_self_nonneg a).eq_or_lt with h0 | hpos
  · rw [dot_self_eq_zero a h0.symm u, ← h0, zero_mul, zero_mul]
  · -- `|(a·u)•a − (a·a)•u|²`, expanded by bilinearity, is `(a·a)·((a·a)(u·u) − (a·u)²)`
    have hl : (smul (dot a u) a).length = (smul (-dot a a) u).length := by rw [smul_length, smul_length, h]
    have := dot_self_nonneg (vadd (smul (dot a u) a) (smul (-dot a a) u))
    rw [dot_vadd_left _ _ _ hl, dot_vadd_right _ _ _ hl, dot_vadd_right _ _ _ hl] at this
    simp only [dot_smul_left, dot_smul_right, dot_comm u a] at this
    refine le_of_mul_le_mul_left (OF.sub_nonneg.mp (this.trans_eq ?_)) hpos
    ring

theorem row_ball (n : Nat) (a x : List α) (b s r : α) (ha : a.length = n) (hx : x.length = n)
    (hs : 0 ≤ s) (hss : s * s = dot a a) (hr : 0 ≤ r) :
    (dot a x + s * r ≤ b) ↔ ∀ u : List α, u.length = n → dot u u ≤ r * r → dot a (vadd x u) ≤ b := by
  constructor
  · intro h u hu hball
    rw [dot_vadd_right _ _ _ (hx.trans hu.symm)]
    have hsq : dot a u * dot a u ≤ (s * r) * (s * r) :=
      calc dot a u * dot a u ≤ dot a a * dot u u := cauchy_schwarz a u (ha.trans hu.symm)
        _ ≤ dot a a * (r * r) := mul_le_mul_of_nonneg_left hball (dot_self_nonneg a)
        _ = (s * r) * (s * r) := by rw [← hss, mul_mul_mul_comm]
    exact (add_le_add_right (nonneg_le_nonneg_of_sq_le_sq (mul_nonneg hs hr) hsq) _).trans h
  · intro h
    -- the worst point of the ball: `u = (r/s)•a`, which is `0` for a zero row (`r / 0 = 0`)
    have e : r / s * dot a a = s * r := by rw [← hss, div_mul_eq_mul_div, mul_div_assoc, mul_self_div_self, mul_comm]
    have hu := h (smul (r / s) a) (by rw [smul_length, ha]) (by
      rw [dot_smul_left, dot_smul_right, e, ← mul_assoc, div_mul_eq_mul_div, mul_div_assoc, mul_right_comm]
      exact mul_le_of_le_one_right (mul_self_nonneg r) (div_self_le_one s))
    rwa [dot_vadd_smul _ _ _ _ (hx.trans ha.symm), e] at hu

theorem cheb_rows (n : Nat) (x : List α) (r : α) (hx : x.length = n) (hr : 0 ≤ r) (mat : Mat α) (norms bias : List α)
    (hm : ∀ a ∈ mat, a.length = n) (hl : norms.length = mat.length)
    (hn : ∀ t ∈ mat.zip norms, 0 ≤ t.2 ∧ t.2 * t.2 = dot t.1 t.1) :
    (∀ rb ∈ (List.zipWith (fun a nr => a ++ [nr]) mat norms).zip bias, dot rb.1 (x ++ [r]) ≤ rb.2) ↔
    ∀ u : List α, u.length = n → dot u u ≤ r * r → ∀ rb ∈ mat.zip bias, dot rb.1 (vadd x u) ≤ rb.2 := by
  induction mat generalizing norms bias with
  | nil => exact iff_of_true (fun _ h => nomatch h) (fun _ _ _ _ h => nomatch h)
  | cons a mat ih =>
    cases norms with
    | nil => cases hl
    | cons s norms =>
      cases bias with
      | nil => exact iff_of_true (fun _ h => nomatch h) (fun _ _ _ _ h => nomatch h)
      | cons b bias =>
        rw [List.forall_mem_cons] at hm
        rw [List.zip_cons_cons, List.forall_mem_cons] at hn
        simp only [List.zipWith_cons_cons, List.zip_cons_cons, List.forall_mem_cons]
        rw [ih norms bias hm.2 (Nat.succ.inj hl) hn.2, dot_append a [s] x [r] (hm.1.trans hx.symm), dot_cons,
          dot_nil_left, add_zero, row_ball n a x b s r hm.1 hx hn.1.1 hn.1.2 hr]
        exact ⟨fun h u hu hb => ⟨h.1 u hu hb, h.2 u hu hb⟩,
          fun h => ⟨fun u hu hb => (h u hu hb).1, fun u hu hb => (h u hu hb).2⟩⟩

/-- the cost vector `(0, …, 0, −1)` of the program reads off `−r` -/
theorem dot_radius (n : Nat) (z : List α) (q : α) (hz : z.length = n) : dot (zeros n ++ [-1]) (z ++ [q]) = -q := by
  rw [dot_append _ _ _ _ ((zeros_length n).trans hz.symm), dot_zeros_left, dot_cons, dot_nil_left, zero_add, add_zero,
    OF.neg_one_mul]

end AV
