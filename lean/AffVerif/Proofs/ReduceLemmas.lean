import AffVerif.Proofs.KidsLemmas
import AffVerif.Model.Reduce
/-!
What `reduce` does at one node (`PT.reduceAux_node`): it keeps the node above its reduced children, or — below the root,
two terminal children with the same map — replaces it by the label-0 child. The theorems about `reduce` (function,
shape, cached states) are inductions with this case distinction at the node.
-/
namespace AV
variable {α : Type} [DecidableEq α]

theorem mergeable_spec (ks : PKids α) (a : PT α) (h : mergeable? ks = some a) :
    ∃ b : PT α, ks = .cons (some a) (.cons (some b) .nil) ∧ a.kids.allNone = true ∧ b.kids.allNone = true ∧
      a.val.aff = b.val.aff := by
  unfold mergeable? at h
  split at h
  · rename_i a' b'
    split at h
    · rename_i hc
      simp only [Bool.and_eq_true, decide_eq_true_eq] at hc
      obtain rfl := Option.some.inj h
      exact ⟨b', rfl, hc.1.1, hc.1.2, hc.2⟩
    · cases h
  · cases h

theorem PT.reduceAux_nonroot (i : Nat) (c : Content α) (ks : PKids α) :
    PT.reduceAux false (.node i c ks) =
      match mergeable? (PKids.reduceAux ks) with
      | some a => a
      | none => .node i c (PKids.reduceAux ks) := rfl

theorem PT.reduceAux_node (isRoot : Bool) (i : Nat) (c : Content α) (ks : PKids α) :
    PT.reduceAux isRoot (.node i c ks) = .node i c (PKids.reduceAux ks) ∨
    ∃ a b, PT.reduceAux isRoot (.node i c ks) = a ∧ isRoot = false ∧
      PKids.reduceAux ks = .cons (some a) (.cons (some b) .nil) ∧
      a.kids.allNone = true ∧ b.kids.allNone = true ∧ a.val.aff = b.val.aff := by
  cases isRoot with
  | true => exact Or.inl rfl
  | false =>
    rw [PT.reduceAux_nonroot]
    cases hm : mergeable? (PKids.reduceAux ks) with
    | none => exact Or.inl rfl
    | some a =>
      obtain ⟨b, hks, h⟩ := mergeable_spec _ a hm
      exact Or.inr ⟨a, b, rfl, rfl, hks, h⟩

theorem PKids.reduceAux_count (ks : PKids α) : (PKids.reduceAux ks).count = ks.count := by
  induction ks using IKids.slots_ind with
  | nil => rfl
  | none r ih => exact ih
  | some _ r ih => exact congrArg Nat.succ ih

theorem PKids.reduceAux_allNone (ks : PKids α) : (PKids.reduceAux ks).allNone = ks.allNone :=
  allNone_eq_of_count_eq _ _ (PKids.reduceAux_count ks)

theorem PKids.reduceAux_length (ks : PKids α) : (PKids.reduceAux ks).length = ks.length := by
  induction ks using IKids.slots_ind with
  | nil => rfl
  | none r ih => exact congrArg Nat.succ ih
  | some _ r ih => exact congrArg Nat.succ ih

end AV
