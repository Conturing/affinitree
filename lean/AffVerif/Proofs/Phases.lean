import AffVerif.Model.Elim
/-!
What the three phases of `infeasible_elimination` can answer for one node, by origin (`Decided`,
`decideNode_decided`); every clause about freshly decided nodes is one `cases` on it, a line per origin.
-/
namespace AV
-- no law of the ordered field is used: the classes are those of `decideNode`
section
variable {α : Type} [Zero α] [One α] [Add α] [Mul α] [Neg α] [Sub α] [LE α] [DecidableLE α]

/-- the states `phase_two` can answer for the polytope `poly`, by origin -/
inductive Solved {σ : Type} (tol : α) (O : Oracles σ α) (s : σ) (poly : Aff α) (n : Nat) : NState α → Prop where
  /-- no verdict: the solver failed, or its point failed `contains` and could not be repaired -/
  | undecided (h1 : (O.lp s poly (zeros n)).1 ≠ .unbounded) (h2 : (O.lp s poly (zeros n)).1 ≠ .infeasible) :
      Solved tol O s poly n .indeterminate
  | infeasible (h : (O.lp s poly (zeros n)).1 = .infeasible) : Solved tol O s poly n .infeasible
  | unbounded (h : (O.lp s poly (zeros n)).1 = .unbounded) : Solved tol O s poly n .feasible
  /-- the solver's point or a repaired one, after `contains` accepted it -/
  | point (p : List α) (hc : Poly.containsTol tol poly p = true) : Solved tol O s poly n (.witness [p])

/-- the states `decideNode` can store at the child behind `hyper` of a node with state `pst` and path `path` -/
inductive Decided {σ : Type} (tol : α) (O : Oracles σ α) (s : σ) (node : Nat) (pst : NState α)
    (path : List (Aff α)) (hyper : Aff α) (n : Nat) : NState α → Prop where
  /-- `phase_inh`: the parent's witnesses that satisfy the new half-space, if there are any -/
  | inherited (ws : List (List α)) (hp : pst = .witness ws)
      (hne : ws.filter (fun w => Poly.containsTol tol hyper w) ≠ []) :
      Decided tol O s node pst path hyper n (.witness (ws.filter (fun w => Poly.containsTol tol hyper w)))
  /-- `phase_one`: what `mirror_points` makes of the parent's witnesses -/
  | mirrored (ws pts : List (List α)) (s' : σ) (hp : pst = .witness ws)
      (hm : O.mirror s node (Poly.intersectionN n (path ++ [hyper])) ws 8 = (some pts, s')) :
      Decided tol O s node pst path hyper n (.witness pts)
  /-- `phase_two`, in some oracle state -/
  | solved (s' : σ) (st : NState α) (h : Solved tol O s' (Poly.intersectionN n (path ++ [hyper])) n st) :
      Decided tol O s node pst path hyper n st

end

-- classes as implicit binders: see DESIGN.md §2
variable {α : Type} {_ : Zero α} {_ : One α} {_ : Add α} {_ : Mul α} {_ : Neg α} {_ : Sub α} {_ : LE α}
  {_ : DecidableLE α}

theorem phaseTwo_solved {σ : Type} (tol : α) (O : Oracles σ α) (s : σ) (node : Nat) (poly : Aff α) (n : Nat) :
    Solved tol O s poly n (phaseTwo tol O s node poly n).1 := by
  unfold phaseTwo
  rcases hr : O.lp s poly (zeros n) with ⟨a, s1⟩
  cases a with
  | infeasible => exact .infeasible (by rw [hr])
  | unbounded => exact .unbounded (by rw [hr])
  | error => exact .undecided (by rw [hr]; nofun) (by rw [hr]; nofun)
  | optimal sol =>
    have hu : Solved tol O s poly n .indeterminate := .undecided (by rw [hr]; nofun) (by rw [hr]; nofun)
    show Solved tol O s poly n (if Poly.containsTol tol poly sol then _ else _ : NState α × σ).1
    split
    · rename_i hc; exact .point sol hc
    · rcases O.mirror s1 node poly [sol] 20 with ⟨_ | _ | ⟨p, ps⟩, s2⟩
      · exact hu
      · exact hu
      · show Solved tol O s poly n (if Poly.containsTol tol poly p then _ else _ : NState α × σ).1
        split
        · rename_i hc; exact .point p hc
        · exact hu

theorem decideNode_decided {σ : Type} (tol : α) (O : Oracles σ α) (s : σ) (node : Nat) (pst : NState α)
    (path : List (Aff α)) (hyper : Aff α) (n : Nat) :
    Decided tol O s node pst path hyper n (decideNode tol O s node pst path hyper n).1 := by
  have two : ∀ s1, Decided tol O s node pst path hyper n
      (phaseTwo tol O s1 node (Poly.intersectionN n (path ++ [hyper])) n).1 :=
    fun s1 => .solved s1 _ (phaseTwo_solved tol O s1 node _ n)
  unfold decideNode phaseInh phaseOne
  cases pst with
  | witness ws =>
    cases hf : (ws.filter (fun w => Poly.containsTol tol hyper w)).isEmpty with
    | true =>
      rcases hm : O.mirror s node (Poly.intersectionN n (path ++ [hyper])) ws 8 with ⟨_ | pts, s'⟩
      · simp only [hf, hm, if_true]; exact two s'
      · simp only [hf, hm, if_true]; exact .mirrored ws pts s' rfl hm
    | false =>
      simp only [hf, Bool.false_eq_true, if_false]
      exact .inherited ws rfl (fun he => by rw [he] at hf; cases hf)
  | _ => exact two s

end AV
