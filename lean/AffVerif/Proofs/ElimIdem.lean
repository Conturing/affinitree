import AffVerif.Proofs.ElimSound
/-!
Idempotence of `infeasible_elimination` (C06). A tree is *settled* when, walking down from the root and stopping at
nodes marked `Infeasible`, no node is `Indeterminate`: there the sweep changes nothing and solves no LP
(`elim_settled_both`). Oracles that always reach a verdict (`Decisive`) make the sweep settle the tree
(`settled_elim_both`).
-/
set_option linter.unusedSectionVars false
namespace AV
section Structure
variable {α : Type}

mutual
/-- walking down from the node and stopping at nodes marked `Infeasible`, no node is `Indeterminate` -/
def PT.SettledBelow : PT α → Prop
  | .node _ _ ks => PKids.Settled ks
def PKids.Settled : PKids α → Prop
  | .nil => True
  | .cons none r => PKids.Settled r
  | .cons (some t) r =>
    (t.val.state = .infeasible ∨ (t.val.state.isFeasible = true ∧ PT.SettledBelow t)) ∧ PKids.Settled r
end

theorem PKids.settled_set_none (ks : PKids α) (l : Nat) (h : PKids.Settled ks) : PKids.Settled (ks.set l none) := by
  induction ks using IKids.slots_ind generalizing l with
  | nil => trivial
  | none r ih => cases l with
    | zero => exact h
    | succ l => exact ih l h
  | some t r ih => cases l with
    | zero => exact h.2
    | succ l => exact ⟨h.1, ih l h.2⟩

-- classes as implicit binders: see DESIGN.md §2
variable {_ : Zero α} {_ : One α} {_ : Add α} {_ : Mul α} {_ : Neg α} {_ : Sub α} {_ : LE α} {_ : DecidableLE α}

theorem elim_settled_both {σ : Type} (tol : α) (O : Oracles σ α) (n : Nat) :
    (∀ (t : PT α) (isRoot : Bool) (path : List (Aff α)) (st : NState α) (s : σ), PT.SettledBelow t →
      elimNode tol O n isRoot path st t s = (.node t.idx ⟨t.val.aff, st⟩ t.kids, s)) ∧
    (∀ (ks : PKids α) (path : List (Aff α)) (paff : Aff α) (pst : NState α) (l : Nat) (s : σ), PKids.Settled ks →
      elimKids tol O n path paff pst ks l s = ⟨ks, s, [], false⟩) := by
  refine ITree.ind ?_ (fun _ _ _ _ _ _ => rfl) ?_ ?_
  · intro i c ks ih isRoot path st s h
    rw [elimNode, ih path c.aff st 0 s h]
    rfl
  · exact fun r ih path paff pst l s h =>
      congrArg (fun r' : KidsRes σ α => KidsRes.mk (.cons none r'.kids) r'.st r'.newInf r'.lastFresh) (ih path paff pst (l+1) s h)
  · intro ch r ihc ih path paff pst l s h
    -- a child cached infeasible is skipped; one cached feasible is swept, which returns it as it is
    have e : elimChild tol O n path paff pst ch l s = (ch, s, false, false) := by
      have hsub := fun (hf : PT.SettledBelow ch) st => ihc false (path ++ [halfspace paff l]) st s hf
      have h1 := h.1
      obtain ⟨j, ⟨aff, st⟩, kk⟩ := ch
      cases st with
      | infeasible => rfl
      | indeterminate => rcases h1 with h1 | ⟨h1, _⟩ <;> cases h1
      | _ =>
        rcases h1 with h1 | ⟨_, h1⟩ <;> [cases h1; exact congrArg (fun r : PT α × σ => (r.1, r.2, false, false)) (hsub h1 _)]
    rw [elimKids_cons_some, e]
    show KidsRes.mk _ _ _ _ = _
    rw [ih path paff pst (l+1) s h.2]
    exact congrArg (KidsRes.mk _ _ _) (ite_self _)

end Structure

variable {α : Type} [Field α] [LinearOrder α] [IsStrictOrderedRing α]

theorem elimKids_settled {σ : Type} (tol : α) (O : Oracles σ α) (n : Nat) (path : List (Aff α)) (paff : Aff α)
    (pst : NState α) (ks : PKids α) (l : Nat) (s : σ) (h : PKids.Settled ks) :
    elimKids tol O n path paff pst ks l s = ⟨ks, s, [], false⟩ :=
  (elim_settled_both tol O n).2 ks path paff pst l s h

/-- the three phases always reach a verdict (no solver error, and a solver point that fails `contains` can be repaired) -/
def Decisive {σ : Type} (tol : α) (O : Oracles σ α) : Prop :=
  ∀ s node pst path hyper n, (decideNode tol O s node pst path hyper n).1 ≠ .indeterminate

theorem settled_elim_both {σ : Type} (tol : α) (O : Oracles σ α) (hd : Decisive tol O) (n : Nat) :
    (∀ (t : PT α) (isRoot : Bool) (path : List (Aff α)) (st : NState α) (s : σ),
      PT.SettledBelow (elimNode tol O n isRoot path st t s).1 ∧
        (st.isFeasible = true → (elimNode tol O n isRoot path st t s).1.val.state.isFeasible = true)) ∧
    (∀ (ks : PKids α) (path : List (Aff α)) (paff : Aff α) (pst : NState α) (l : Nat) (s : σ),
      PKids.Settled (elimKids tol O n path paff pst ks l s).kids) := by
  refine ITree.ind ?_ (fun _ _ _ _ _ => trivial) (fun r ih path paff pst l s => ih path paff pst (l+1) s) ?_
  · intro i c ks ih isRoot path st s
    have hk := ih path c.aff st 0 s
    -- a child forwarded into the node's place is settled and not marked infeasible, hence marked feasible
    have fwd : ∀ ch : PT α, (ch.val.state = .infeasible ∨ ch.val.state.isFeasible = true ∧ PT.SettledBelow ch) →
        ch.val.state.isInfeasible = false → PT.SettledBelow ch ∧ (st.isFeasible = true → ch.val.state.isFeasible = true) :=
      fun ch h hn => h.elim (fun hi => by rw [hi] at hn; cases hn) (fun h => ⟨h.2, fun _ => h.1⟩)
    refine elimNode_elim (motive := fun t => PT.SettledBelow t ∧ (st.isFeasible = true → t.val.state.isFeasible = true))
      tol O n isRoot path st i c ks s _ rfl
      (fun ls _ _ => ⟨removeLabels_induct _ _ (fun k l _ _ => PKids.settled_set_none k l) hk, id⟩) fun _ a b hks => ?_
    rw [hks] at hk
    exact ⟨fun ha _ => fwd a hk.1 ha, fun _ hb => fwd b hk.2.1 hb⟩
  · intro ch r ihc ih path paff pst l s
    rw [elimKids_cons_some]
    refine ⟨?_, ih path paff pst (l+1) _⟩
    refine elimChild_elim
      (motive := fun c => c.1.val.state = .infeasible ∨ c.1.val.state.isFeasible = true ∧ PT.SettledBelow c.1)
      tol O n path paff pst ch l s _ rfl Or.inl (fun _ hi => Or.inl ((NState.isInfeasible_iff _).1 hi))
      fun st' s' _ hst' hor => ?_
    have hsub := ihc false (path ++ [halfspace paff l]) st' s'
    refine Or.inr ⟨hsub.2 ?_, hsub.1⟩
    rcases hor with hor | ⟨_, rfl, _⟩
    · exact hor.2.1
    · exact (not_indeterminate_cases _ (hd s ch.idx pst path (halfspace paff l) n)).resolve_left
        fun h => by rw [h] at hst'; cases hst'

theorem settled_elimNode' {σ : Type} (tol : α) (O : Oracles σ α) (hd : Decisive tol O) (n : Nat) (isRoot : Bool)
    (path : List (Aff α)) (st : NState α) (t : PT α) (s : σ) :
    PT.SettledBelow (elimNode tol O n isRoot path st t s).1 ∧
      (st.isFeasible = true → (elimNode tol O n isRoot path st t s).1.val.state.isFeasible = true) :=
  (settled_elim_both tol O hd n).1 t isRoot path st s

theorem settled_elimKids {σ : Type} (tol : α) (O : Oracles σ α) (hd : Decisive tol O) (n : Nat)
    (path : List (Aff α)) (paff : Aff α) (pst : NState α) (ks : PKids α) (l : Nat) (s : σ) :
    PKids.Settled (elimKids tol O n path paff pst ks l s).kids :=
  (settled_elim_both tol O hd n).2 ks path paff pst l s

theorem elimNode_state_feasible {σ : Type} (tol : α) (O : Oracles σ α) (hd : Decisive tol O) (n : Nat) (isRoot : Bool)
    (path : List (Aff α)) (st : NState α) (t : PT α) (s : σ) (hst : st.isFeasible = true) :
    (elimNode tol O n isRoot path st t s).1.val.state.isFeasible = true :=
  ((settled_elim_both tol O hd n).1 t isRoot path st s).2 hst

end AV
