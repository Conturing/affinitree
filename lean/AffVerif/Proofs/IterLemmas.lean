import AffVerif.Model.Iter
import AffVerif.Proofs.KidsLemmas
/-!
The depth-first machines emit the reference traversals: the reference is extended to a whole stack of pending entries
(`refStack`), one round pops the top and pushes its children, `skip_subtree` pops them again. Their size hints bracket
the number of nodes on the stack (`Dfs.Inv`, `DfsE.Inv`). Core Lean only (the traversal theorems of C13 do without
`Classical.choice`).
-/
namespace AV
variable {β : Type}

abbrev Stack (β : Type) := List (Nat × ITree β × Nat)

def refStack (sk : Nat → Nat) : Stack β → Nat → List Item × Nat
  | [], k => ([], k)
  | (d, t, r) :: rest, k =>
    let a := refDfsT sk d t r k
    let b := refStack sk rest a.2
    (a.1 ++ b.1, b.2)

def stackSize : Stack β → Nat
  | [] => 0
  | (_, t, _) :: rest => t.size + stackSize rest

theorem refStack_append (sk : Nat → Nat) (S1 S2 : Stack β) (k : Nat) :
    refStack sk (S1 ++ S2) k =
      ((refStack sk S1 k).1 ++ (refStack sk S2 (refStack sk S1 k).2).1, (refStack sk S2 (refStack sk S1 k).2).2) := by
  induction S1 generalizing k with
  | nil => rfl
  | cons e S1 ih => simp only [List.cons_append, refStack, ih, List.append_assoc]

theorem stackSize_append (S1 S2 : Stack β) : stackSize (S1 ++ S2) = stackSize S1 + stackSize S2 := by
  induction S1 with
  | nil => exact (Nat.zero_add _).symm
  | cons e S1 ih => simp only [List.cons_append, stackSize, ih, Nat.add_assoc]

theorem IKids.childList_eq_members (ks : IKids β) : ks.childList = ks.members := ks.existingFrom_map_snd 0

theorem childList_length (ks : IKids β) : ks.childList.length = ks.count := by
  rw [ks.childList_eq_members, ks.length_members]

theorem refStack_entries (sk : Nat → Nat) (d : Nat) (ks : IKids β) (k : Nat) :
    refStack sk (entries d ks.childList) k = refDfsK sk d ks k := by
  rw [ks.childList_eq_members]
  induction ks using IKids.slots_ind generalizing k with
  | nil => rfl
  | none r ih => rw [refDfsK]; exact ih k
  | some t r ih => rw [IKids.members, entries, refStack, refDfsK, ih, IKids.length_members]

theorem stackSize_entries (d : Nat) (ks : IKids β) : stackSize (entries d ks.childList) = ks.size := by
  rw [ks.childList_eq_members]
  induction ks using IKids.slots_ind with
  | nil => rfl
  | none r ih => exact ih
  | some t r ih => exact congrArg (t.size + ·) ih

theorem ITree.size_eq (t : ITree β) : t.size = t.kids.size + 1 := by
  cases t; exact Nat.add_comm 1 _

theorem ITree.size_pos (t : ITree β) : 1 ≤ t.size := t.size_eq ▸ Nat.le_add_left 1 _

/-- one round of the machine: the top entry is replaced by its children, which hold one node less -/
theorem stackSize_round (d d' : Nat) (t : ITree β) (r : Nat) (rest : Stack β) :
    stackSize ((d, t, r) :: rest) = stackSize (entries d' t.kids.childList ++ rest) + 1 := by
  rw [stackSize_append, stackSize, stackSize_entries, t.size_eq, Nat.add_right_comm]

theorem entries_length (d : Nat) (cs : List (ITree β)) : (entries d cs).length = cs.length := by
  induction cs with
  | nil => rfl
  | cons c cs ih => rw [entries, List.length_cons, List.length_cons, ih]

/-- `skip_subtree` forgets what the last `next` pushed; a second call finds nothing to forget -/
theorem Dfs.skip_skip (s : Dfs β) : s.skip.skip = s.skip := by
  simp only [Dfs.skip, List.drop_zero, Nat.sub_zero]

theorem Dfs.skipN_succ (n : Nat) (s : Dfs β) : Dfs.skipN (n+1) s = s.skip := by
  induction n generalizing s with
  | zero => rfl
  | succ n ih => rw [Dfs.skipN, ih, Dfs.skip_skip]

theorem skipN_zero (s : Dfs β) : Dfs.skipN 0 s = s := rfl

theorem Dfs.next_of_stack (s : Dfs β) (d : Nat) (t : ITree β) (r : Nat) (rest : Stack β) (hs : s.stack = (d, t, r) :: rest) :
    ∃ s', s.next = some (⟨d, t.idx, r⟩, s') ∧
      ∀ m, (Dfs.skipN m s').stack = if m ≠ 0 then rest else entries (d+1) t.kids.childList ++ rest := by
  obtain ⟨S, lp, lb, ub⟩ := s
  cases hs
  refine ⟨_, rfl, fun m => ?_⟩
  cases m with
  | zero => rfl
  | succ m =>
    rw [Dfs.skipN_succ, Dfs.skip, if_pos (Nat.succ_ne_zero m)]
    simp only [← entries_length (d+1) t.kids.childList, List.drop_left]

theorem stackSize_ge_length (S : Stack β) : S.length ≤ stackSize S := by
  induction S with
  | nil => exact Nat.le_refl 0
  | cons e S ih => exact Nat.succ_le_of_lt (Nat.lt_of_le_of_lt ih (Nat.lt_add_of_pos_left (ITree.size_pos e.2.1)))

/-- the machine, with `skip_subtree` called any number of times after any items, emits exactly the reference
    pre-order with those sub-trees omitted (depth, index and remaining-sibling counter included) -/
theorem dfs_run_eq_ref (sk : Nat → Nat) (fuel : Nat) (S : Stack β) (lp lb ub k : Nat)
    (hf : stackSize S ≤ fuel) :
    (Dfs.run sk fuel ⟨S, lp, lb, ub⟩ k).map (·.1) = (refStack sk S k).1 := by
  induction fuel generalizing S lp lb ub k with
  | zero => rw [List.eq_nil_of_length_eq_zero (Nat.le_zero.mp (Nat.le_trans (stackSize_ge_length S) hf))]; rfl
  | succ fuel ih =>
    cases S with
    | nil => rfl
    | cons e rest =>
      obtain ⟨d, ⟨i, v, ks⟩, r⟩ := e
      rw [stackSize_round d (d+1)] at hf
      have hsz : stackSize (entries (d+1) ks.childList ++ rest) ≤ fuel := Nat.le_of_succ_le_succ hf
      simp only [Dfs.run, Dfs.next, ITree.idx, ITree.kids, refStack, refDfsT, List.map_cons]
      cases hsk : sk k with
      | zero =>
        simp only [skipN_zero, ne_eq, not_true_eq_false, if_false]
        rw [ih _ _ _ _ (k+1) hsz, refStack_append, refStack_entries]
        rfl
      | succ m =>
        -- the skips drop the children just pushed: the stack is `rest` again
        simp only [Dfs.skipN_succ, Dfs.skip, ← entries_length (d+1) ks.childList, List.drop_left, ne_eq,
          Nat.succ_ne_zero, not_false_eq_true, if_true]
        rw [ih rest _ _ _ (k+1) (Nat.le_trans (stackSize_append _ _ ▸ Nat.le_add_left _ _) hsz)]
        rfl

theorem stackSize_take_drop (S : Stack β) (n : Nat) : stackSize S = stackSize (S.take n) + stackSize (S.drop n) := by
  rw [← stackSize_append, List.take_append_drop]

/-- size-hint invariant of `DfsPre`: the bounds bracket the number of items still to come (if `skip_subtree`
    is not called again), and `last_push` entries are on the stack -/
def Dfs.Inv (s : Dfs β) : Prop :=
  s.lb ≤ stackSize s.stack ∧ stackSize s.stack ≤ s.ub ∧ s.lastPush ≤ s.stack.length

theorem ite_zero_le {c : Prop} [Decidable c] {a b : Nat} (h : c → a ≤ b) : (if c then a else 0) ≤ b := by
  split
  · exact h ‹c›
  · exact Nat.zero_le b

theorem Dfs.inv_new (whole start : ITree β) (hsub : start.size ≤ whole.size)
    (hroot : start.idx = whole.idx → start.size = whole.size) : (Dfs.new whole start).Inv :=
  ⟨ite_zero_le fun h => Nat.le_of_eq (hroot h).symm, hsub, Nat.zero_le _⟩

theorem Dfs.inv_next (s s' : Dfs β) (it : Item) (h : s.Inv) (hn : s.next = some (it, s')) : s'.Inv := by
  obtain ⟨S, lp, lb, ub⟩ := s
  cases S with
  | nil => cases hn
  | cons e rest =>
    obtain ⟨d, t, r⟩ := e
    cases hn
    obtain ⟨h1, h2, _⟩ := h
    -- one item leaves: the number still to come drops by one, as both bounds do
    rw [stackSize_round d (d+1) t r rest] at h1 h2
    refine ⟨Nat.sub_le_of_le_add h1, Nat.le_sub_of_add_le h2, ?_⟩
    exact Nat.le_trans (Nat.le_of_eq (entries_length _ _).symm) (List.length_append ▸ Nat.le_add_right _ _)

theorem Dfs.inv_skip (s : Dfs β) (h : s.Inv) : s.skip.Inv := by
  obtain ⟨_, h2, h3⟩ := h
  -- each of the `lastPush` entries dropped holds at least one node
  have h5 := stackSize_ge_length (s.stack.take s.lastPush)
  rw [List.length_take, Nat.min_eq_left h3] at h5
  rw [stackSize_take_drop s.stack s.lastPush, Nat.add_comm] at h2
  exact ⟨stackSize_ge_length _, Nat.le_sub_of_add_le (Nat.le_trans (Nat.add_le_add_left h5 _) h2), Nat.zero_le _⟩

abbrev EStack (β : Type) := List (Nat × Nat × Nat × ITree β)

def refStackE (sk : Nat → Nat) : EStack β → Nat → List EItem × Nat
  | [], k => ([], k)
  | (_, src, l, t) :: rest, k =>
    let a := refEdgeT sk src l t k
    let b := refStackE sk rest a.2
    (a.1 ++ b.1, b.2)

def stackSizeE : EStack β → Nat
  | [] => 0
  | (_, _, _, t) :: rest => t.size + stackSizeE rest

theorem refStackE_append (sk : Nat → Nat) (S1 S2 : EStack β) (k : Nat) :
    refStackE sk (S1 ++ S2) k =
      ((refStackE sk S1 k).1 ++ (refStackE sk S2 (refStackE sk S1 k).2).1, (refStackE sk S2 (refStackE sk S1 k).2).2) := by
  induction S1 generalizing k with
  | nil => rfl
  | cons e S1 ih => simp only [List.cons_append, refStackE, ih, List.append_assoc]

theorem stackSizeE_append (S1 S2 : EStack β) : stackSizeE (S1 ++ S2) = stackSizeE S1 + stackSizeE S2 := by
  induction S1 with
  | nil => exact (Nat.zero_add _).symm
  | cons e S1 ih => simp only [List.cons_append, stackSizeE, ih, Nat.add_assoc]

theorem refStackE_entries (sk : Nat → Nat) (d src : Nat) (ks : IKids β) (l k : Nat) :
    refStackE sk (edgeEntries d src (ks.existingFrom l)) k = refEdgeK sk src l ks k := by
  induction ks using IKids.slots_ind generalizing l k with
  | nil => rfl
  | none r ih => rw [IKids.existingFrom, refEdgeK, ih]
  | some t r ih => rw [IKids.existingFrom, edgeEntries, List.map_cons, refStackE, refEdgeK, ← ih]; rfl

theorem stackSizeE_entries (d src : Nat) (ks : IKids β) (l : Nat) :
    stackSizeE (edgeEntries d src (ks.existingFrom l)) = ks.size := by
  induction ks using IKids.slots_ind generalizing l with
  | nil => rfl
  | none r ih => rw [IKids.existingFrom, IKids.size, ih]
  | some t r ih => rw [IKids.existingFrom, edgeEntries, List.map_cons, stackSizeE, IKids.size, ← ih (l+1)]; rfl

theorem stackSizeE_children (d : Nat) (t : ITree β) : stackSizeE (edgeEntries d t.idx t.kids.existing) + 1 = t.size :=
  (congrArg (· + 1) (stackSizeE_entries d t.idx t.kids 0)).trans t.size_eq.symm

theorem stackSizeE_round (d d' src l : Nat) (t : ITree β) (rest : EStack β) :
    stackSizeE ((d, src, l, t) :: rest) = stackSizeE (edgeEntries d' t.idx t.kids.existing ++ rest) + 1 := by
  rw [stackSizeE_append, Nat.add_right_comm, stackSizeE_children]; rfl

theorem edgeEntries_length (d src : Nat) (cs : List (Nat × ITree β)) : (edgeEntries d src cs).length = cs.length :=
  List.length_map _

theorem DfsE.skip_skip (s : DfsE β) : s.skip.skip = s.skip := by
  simp only [DfsE.skip, List.drop_zero, Nat.sub_zero]

theorem DfsE.skipN_succ (n : Nat) (s : DfsE β) : DfsE.skipN (n+1) s = s.skip := by
  induction n generalizing s with
  | zero => rfl
  | succ n ih => rw [DfsE.skipN, ih, DfsE.skip_skip]

theorem stackSizeE_ge_length (S : EStack β) : S.length ≤ stackSizeE S := by
  induction S with
  | nil => exact Nat.le_refl 0
  | cons e S ih => exact Nat.succ_le_of_lt (Nat.lt_of_le_of_lt ih (Nat.lt_add_of_pos_left (ITree.size_pos e.2.2.2)))

/-- the edge traversal emits the reference edge list (pre-order, children by ascending label), with skips -/
theorem dfsE_run_eq_ref (sk : Nat → Nat) (fuel : Nat) (S : EStack β) (lp lb ub k : Nat)
    (hf : stackSizeE S ≤ fuel) :
    (DfsE.run sk fuel ⟨S, lp, lb, ub⟩ k).map (·.1) = (refStackE sk S k).1 := by
  induction fuel generalizing S lp lb ub k with
  | zero => rw [List.eq_nil_of_length_eq_zero (Nat.le_zero.mp (Nat.le_trans (stackSizeE_ge_length S) hf))]; rfl
  | succ fuel ih =>
    cases S with
    | nil => rfl
    | cons e rest =>
      obtain ⟨d, src, l, ⟨i, v, ks⟩⟩ := e
      rw [stackSizeE_round d (d+1)] at hf
      have hsz : stackSizeE (edgeEntries (d+1) i (ks.existingFrom 0) ++ rest) ≤ fuel := Nat.le_of_succ_le_succ hf
      simp only [DfsE.run, DfsE.next, ITree.idx, ITree.kids, refStackE, refEdgeT, List.map_cons, IKids.existing]
      cases hsk : sk k with
      | zero =>
        simp only [DfsE.skipN, ne_eq, not_true_eq_false, if_false]
        rw [ih _ _ _ _ (k+1) hsz, refStackE_append, refStackE_entries]
        rfl
      | succ m =>
        simp only [DfsE.skipN_succ, DfsE.skip, ← edgeEntries_length (d+1) i (ks.existingFrom 0), List.drop_left, ne_eq,
          Nat.succ_ne_zero, not_false_eq_true, if_true]
        rw [ih rest _ _ _ (k+1) (Nat.le_trans (stackSizeE_append _ _ ▸ Nat.le_add_left _ _) hsz)]
        rfl

/-- size-hint invariant of `DfsEdge`, as for `DfsPre` -/
def DfsE.Inv (s : DfsE β) : Prop :=
  s.lb ≤ stackSizeE s.stack ∧ stackSizeE s.stack ≤ s.ub ∧ s.lastPush ≤ s.stack.length

theorem DfsE.inv_new (whole start : ITree β) (hsub : start.size ≤ whole.size)
    (hroot : start.idx = whole.idx → start.size = whole.size) : (DfsE.new whole start).Inv := by
  have hsz := stackSizeE_children 1 start
  exact ⟨ite_zero_le fun h => Nat.sub_le_of_le_add (Nat.le_of_eq ((hroot h).symm.trans hsz.symm)),
    Nat.le_trans (Nat.le_of_succ_le (Nat.le_of_eq hsz)) hsub, Nat.le_of_eq (edgeEntries_length ..).symm⟩

theorem DfsE.inv_next (s s' : DfsE β) (it : EItem) (h : s.Inv) (hn : s.next = some (it, s')) : s'.Inv := by
  obtain ⟨S, lp, lb, ub⟩ := s
  cases S with
  | nil => cases hn
  | cons e rest =>
    obtain ⟨d, src, l, t⟩ := e
    cases hn
    obtain ⟨h1, h2, _⟩ := h
    rw [stackSizeE_round d (d+1) src l t rest] at h1 h2
    refine ⟨Nat.sub_le_of_le_add h1, Nat.le_sub_of_add_le h2, ?_⟩
    exact Nat.le_trans (Nat.le_of_eq (edgeEntries_length ..).symm) (List.length_append ▸ Nat.le_add_right _ _)

theorem DfsE.inv_skip (s : DfsE β) (h : s.Inv) : s.skip.Inv := by
  obtain ⟨_, h2, h3⟩ := h
  have h5 := stackSizeE_ge_length (s.stack.take s.lastPush)
  rw [List.length_take, Nat.min_eq_left h3] at h5
  rw [← List.take_append_drop s.lastPush s.stack, stackSizeE_append, Nat.add_comm] at h2
  exact ⟨stackSizeE_ge_length _, Nat.le_sub_of_add_le (Nat.le_trans (Nat.add_le_add_left h5 _) h2), Nat.zero_le _⟩

end AV
