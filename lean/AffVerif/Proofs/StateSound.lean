import AffVerif.Proofs.ElimSound
import AffVerif.Proofs.Fresh
import AffVerif.Proofs.ReduceLemmas
/-!
Cache invariants as one notion: a clause `P path state` that holds at every node, for the node's path and cached
state (`PT.StSound P`); the clauses of C05 / C06 / C11 are instances. Every operation keeps an arbitrary clause under the
hypothesis it needs: copies of an operand are fresh (`P p .indeterminate`), a sub-tree that moves to another path takes
`P` along (`PT.stSound_move_both`: `reduce`, `forward_if_redundant`), the three phases establish `P` at a decided node.
A composition regrows its left operand (`PT.Regrown`, `PKids.Regrown` in `Fresh`), which every clause that holds of
`Indeterminate` survives (`PKids.stSound_regrown`).
-/
set_option linter.unusedSectionVars false
namespace AV
variable {α : Type}

section
-- the clauses of C05 / C06 / C11 are over a field, so `StPred`, `PT.StSound`, `StFwd` take `[Field α]`, and so do the lemmas about them
variable [Field α]

/-- a clause that survives shortening the path (monotone clauses: witnesses, non-empty lists) -/
structure StPred (P : List (Aff α) → NState α → Prop) : Prop where
  mono : ∀ (p q : List (Aff α)), (∀ h ∈ q, h ∈ p) → ∀ st, P p st → P q st

mutual
/-- the clause `P path state` holds at every node, for the node's path and cached state -/
def PT.StSound (P : List (Aff α) → NState α → Prop) : List (Aff α) → PT α → Prop
  | path, .node _ c ks => P path c.state ∧ PKids.StSound P path c.aff 0 ks
def PKids.StSound (P : List (Aff α) → NState α → Prop) : List (Aff α) → Aff α → Nat → PKids α → Prop
  | _, _, _, .nil => True
  | path, a, l, .cons none r => PKids.StSound P path a (l+1) r
  | path, a, l, .cons (some t) r => PT.StSound P (path ++ [halfspace a l]) t ∧ PKids.StSound P path a (l+1) r
end

/-- what the sweep needs of a clause: it survives dropping a decision from a path when the other side of that decision
    is marked infeasible — which is what `forward_if_redundant` does to every path below the forwarded child -/
structure StFwd (P : List (Aff α) → NState α → Prop) : Prop where
  fwd : ∀ (path : List (Aff α)) (d : Aff α) (l : Nat) (sib : NState α), d.WF → d.outdim ≤ 1 → l ≤ 1 →
    sib.isInfeasible = true → P (path ++ [halfspace d (1 - l)]) sib →
    ∀ (e : List (Aff α)) (st : NState α), P (path ++ [halfspace d l] ++ e) st → P (path ++ e) st

theorem StPred.move {P : List (Aff α) → NState α → Prop} (hP : StPred P) {p q : List (Aff α)} (hqp : ∀ h ∈ q, h ∈ p)
    (e : List (Aff α)) (st : NState α) (h : P (p ++ e) st) : P (q ++ e) st :=
  hP.mono _ _ (fun g hg => (List.mem_append.1 hg).elim (fun hq => List.mem_append_left _ (hqp g hq))
    (List.mem_append_right _)) st h

theorem StPred.toFwd {P : List (Aff α) → NState α → Prop} (hP : StPred P) : StFwd P :=
  ⟨fun _ _ _ _ _ _ _ _ _ => hP.move fun _ => List.mem_append_left _⟩

theorem PT.stSound_iff (P : List (Aff α) → NState α → Prop) (p : List (Aff α)) (t : PT α) :
    PT.StSound P p t ↔ P p t.val.state ∧ PKids.StSound P p t.val.aff 0 t.kids := by
  cases t with
  | node i c ks => rfl

/-- the hypothesis is quantified over the suffix `e` because every path below the moved node is `p ++ e` -/
theorem PT.stSound_move_both (P : List (Aff α) → NState α → Prop) :
    (∀ (t : PT α) (p q : List (Aff α)), (∀ e st, P (p ++ e) st → P (q ++ e) st) →
      PT.StSound P p t → PT.StSound P q t) ∧
    (∀ (ks : PKids α) (p q : List (Aff α)) (a : Aff α) (l : Nat), (∀ e st, P (p ++ e) st → P (q ++ e) st) →
      PKids.StSound P p a l ks → PKids.StSound P q a l ks) := by
  refine ITree.ind ?_ (fun _ _ _ _ _ _ => trivial) (fun r ih p q a l hpq h => ih p q a (l+1) hpq h) ?_
  · intro i c ks ih p q hpq h
    have h0 := hpq [] c.state
    rw [List.append_nil, List.append_nil] at h0
    exact ⟨h0 h.1, ih p q c.aff 0 hpq h.2⟩
  · intro t r iht ih p q a l hpq h
    refine ⟨iht _ _ (fun e st => ?_) h.1, ih p q a (l+1) hpq h.2⟩
    rw [List.append_assoc, List.append_assoc]
    exact hpq _ st

/-- `forward_if_redundant`: a sub-tree whose sibling is marked infeasible takes its parent's place -/
theorem PT.stSound_forward (P : List (Aff α) → NState α → Prop) (hP : StFwd P) (path : List (Aff α)) (d : Aff α)
    (hwf : d.WF) (hrows : d.outdim ≤ 1) (l : Nat) (hl : l ≤ 1) (keep sib : PT α)
    (hi : sib.val.state.isInfeasible = true) (hsib : PT.StSound P (path ++ [halfspace d (1 - l)]) sib)
    (hkeep : PT.StSound P (path ++ [halfspace d l]) keep) : PT.StSound P path keep :=
  (PT.stSound_move_both P).1 keep _ path (hP.fwd path d l _ hwf hrows hl hi ((PT.stSound_iff P _ sib).1 hsib).1) hkeep

theorem PKids.stSound_allNone (P : List (Aff α) → NState α → Prop) (ks : PKids α) (path : List (Aff α)) (a : Aff α) (l : Nat)
    (h : ks.allNone = true) : PKids.StSound P path a l ks :=
  IKids.allNone_ind (Q := fun ks => ∀ l, PKids.StSound P path a l ks) (fun _ => trivial) (fun _ ih l => ih (l+1)) ks h l

theorem PKids.stSound_of_fresh (P : List (Aff α) → NState α → Prop) (hind : ∀ p, P p .indeterminate) (ks : PKids α)
    (path : List (Aff α)) (a : Aff α) (l : Nat) (h : PKids.Fresh ks) : PKids.StSound P path a l ks := by
  induction ks using IKids.nested_ind generalizing path a l with
  | nil => trivial
  | none r ih => exact ih path a (l+1) h
  | some i c ks r ihk ih => exact ⟨⟨h.1.1 ▸ hind _, ihk _ c.aff 0 h.1.2⟩, ih path a (l+1) h.2⟩

theorem PT.stSound_of_fresh (P : List (Aff α) → NState α → Prop) (hind : ∀ p, P p .indeterminate) (t : PT α)
    (path : List (Aff α)) (h : PT.Fresh t) : PT.StSound P path t :=
  match t with
  | .node _ c ks => ⟨h.1 ▸ hind _, PKids.stSound_of_fresh P hind ks path c.aff 0 h.2⟩

theorem PT.stSound_regrown (P : List (Aff α) → NState α → Prop) (hind : ∀ p, P p .indeterminate) {i : Nat}
    {c : Content α} {ks ks' : PKids α} {t' : PT α} (hr : PT.Regrown i c ks' t') (path : List (Aff α))
    (hk : PKids.StSound P path c.aff 0 ks → PKids.StSound P path c.aff 0 ks')
    (h : PT.StSound P path (.node i c ks)) : PT.StSound P path t' := by
  cases hr with
  | kept => exact ⟨h.1, hk h.2⟩
  | reused a kids hf => exact ⟨h.1, PKids.stSound_of_fresh P hind kids path a 0 hf⟩
  | fresh hf => exact PT.stSound_of_fresh P hind t' path hf

theorem PKids.stSound_regrown (P : List (Aff α) → NState α → Prop) (hind : ∀ p, P p .indeterminate) {ks ks' : PKids α}
    (hr : PKids.Regrown ks ks') (path : List (Aff α)) (a : Aff α) (l : Nat) (h : PKids.StSound P path a l ks) :
    PKids.StSound P path a l ks' := by
  induction hr generalizing path a l with
  | nil => trivial
  | none _ ih => exact ih path a (l+1) h
  | some ht _ _ ihk ih => exact ⟨PT.stSound_regrown P hind ht _ (ihk _ _ 0) h.1, ih path a (l+1) h.2⟩

theorem PKids.stSound_set_none (P : List (Aff α) → NState α → Prop) (ks : PKids α) (path : List (Aff α)) (a : Aff α) (l0 l : Nat)
    (h : PKids.StSound P path a l0 ks) : PKids.StSound P path a l0 (ks.set l none) := by
  induction ks using IKids.slots_ind generalizing l0 l with
  | nil => trivial
  | none r ih => cases l with | zero => exact h | succ l => exact ih (l0+1) l h
  | some t r ih => cases l with | zero => exact h.2 | succ l => exact ⟨h.1, ih (l0+1) l h.2⟩

-- classes as implicit binders: see DESIGN.md §2
variable {_ : LE α} {_ : DecidableLE α}

theorem PT.stSound_elim_both {σ : Type} (P : List (Aff α) → NState α → Prop) (hP : StFwd P) (tol : α) (O : Oracles σ α) (n : Nat)
    (hphase : ∀ (s : σ) (node : Nat) (pst : NState α) (path : List (Aff α)) (hyper : Aff α), P path pst →
      P (path ++ [hyper]) (decideNode tol O s node pst path hyper n).1) :
    (∀ (t : PT α) (isRoot : Bool) (path : List (Aff α)) (st : NState α) (s : σ), PT.ElimOK t →
      PKids.StSound P path t.val.aff 0 t.kids → P path st → PT.StSound P path (elimNode tol O n isRoot path st t s).1) ∧
    (∀ (ks : PKids α) (path : List (Aff α)) (paff : Aff α) (pst : NState α) (l : Nat) (s : σ), PKids.ElimOK ks →
      PKids.StSound P path paff l ks → P path pst →
      PKids.StSound P path paff l (elimKids tol O n path paff pst ks l s).kids) := by
  refine ITree.ind ?_ (fun _ _ _ _ _ _ _ _ => trivial) (fun _ ih path paff pst l s => ih path paff pst (l+1) s) ?_
  · intro i c ks ih isRoot path st s hok hc hst
    have hk := ih path c.aff st 0 s hok.2.2 hc hst
    refine elimNode_elim tol O n isRoot path st i c ks s _ rfl (fun ls _ _ =>
      ⟨hst, removeLabels_induct _ _ (fun k l _ _ => PKids.stSound_set_none P k path c.aff 0 l) hk⟩) fun _ a b hks => ?_
    rw [hks] at hk
    have hall : ks.allNone = false := by rw [← elimKids_allNone tol O n path c.aff st ks 0 s, hks]; rfl
    obtain ⟨hwf, hrows⟩ := hok.2.1 hall
    exact ⟨fun _ hb => PT.stSound_forward P hP path c.aff hwf hrows 0 (Nat.zero_le _) a b hb hk.2.1 hk.1,
      fun ha _ => PT.stSound_forward P hP path c.aff hwf hrows 1 (Nat.le_refl _) b a ha hk.1 hk.2.1⟩
  · rintro ⟨j, c, kk⟩ r ihch ihr path paff pst l s hok hc hst
    rw [elimKids_cons_some]
    refine ⟨?_, ihr path paff pst (l+1) _ hok.2 hc.2 hst⟩
    -- a swept child is entered with its cached state or with the state the phases decided
    exact elimChild_elim (motive := fun c' => PT.StSound P _ c'.1) tol O n path paff pst _ l s _ rfl (fun _ => hc.1)
      (fun _ _ => ⟨hphase s j pst path _ hst, hc.1.2⟩)
      fun st' s' _ _ hst' => ihch false _ st' s' hok.1 hc.1.2
        (hst'.elim (fun h => h.1 ▸ hc.1.1) (fun h => h.2.1 ▸ hphase s j pst path _ hst))

theorem PT.stSound_infeasibleElimination {σ : Type} (P : List (Aff α) → NState α → Prop) (hF : StFwd P) (tol : α)
    (O : Oracles σ α) (n : Nat)
    (hphase : ∀ (s : σ) (node : Nat) (pst : NState α) (path : List (Aff α)) (hyper : Aff α) (r : NState α),
      Decided tol O s node pst path hyper n r → P path pst → P (path ++ [hyper]) r)
    (t : PT α) (s : σ) (hok : PT.ElimOK t) (h : PT.StSound P [] t) :
    PT.StSound P [] (infeasibleElimination tol O n t s).1 :=
  have h' := (PT.stSound_iff P [] t).1 h
  (PT.stSound_elim_both P hF tol O n fun s node pst path hyper =>
    hphase s node pst path hyper _ (decideNode_decided tol O s node pst path hyper n)).1 t true [] t.val.state s hok h'.2 h'.1

end

section
variable [Field α] [LinearOrder α] [IsStrictOrderedRing α]

theorem PKids.stSound_mono (P : List (Aff α) → NState α → Prop) (hP : StPred P) (ks : PKids α) (p q : List (Aff α)) (a : Aff α) (l : Nat)
    (hqp : ∀ h ∈ q, h ∈ p) (h : PKids.StSound P p a l ks) : PKids.StSound P q a l ks :=
  (PT.stSound_move_both P).2 ks p q a l (hP.move hqp) h

theorem PKids.stSound_composeS (P : List (Aff α) → NState α → Prop) (hind : ∀ p, P p .indeterminate) (S : Schema α) (ks : PKids α) (g : PT α) (c : Nat) (path : List (Aff α))
    (a : Aff α) (l : Nat) (h : PKids.StSound P path a l ks) :
    PKids.StSound P path a l (PKids.composeS S ks g c).1 :=
  PKids.stSound_regrown P hind (PKids.composeS_regrown S ks g c) path a l h

theorem PT.stSound_composeS (P : List (Aff α) → NState α → Prop) (hind : ∀ p, P p .indeterminate) (S : Schema α) (f g : PT α) (c : Nat) (path : List (Aff α))
    (h : PT.StSound P path f) : PT.StSound P path (PT.composeS S f g c).1 :=
  match f with
  | .node i fc ks =>
    PT.stSound_regrown P hind (PT.composeS_regrown S i fc ks g c) path
      (PKids.stSound_composeS P hind S ks g c path fc.aff 0) h

mutual
theorem PT.stSound_mapTerminals (P : List (Aff α) → NState α → Prop) (φ : Aff α → Aff α) (t : PT α) (path : List (Aff α))
    (h : PT.StSound P path t) : PT.StSound P path (PT.mapTerminals φ t) := by
  match t with
  | .node i c ks =>
    cases hl : ks.allNone with
    | true => exact PT.mapTerminals_terminal hl ▸ ⟨h.1, PKids.stSound_allNone P ks path _ 0 hl⟩
    | false => exact PT.mapTerminals_decision hl ▸ ⟨h.1, PKids.stSound_mapTerminals P φ ks path c.aff 0 h.2⟩
theorem PKids.stSound_mapTerminals (P : List (Aff α) → NState α → Prop) (φ : Aff α → Aff α) (ks : PKids α) (path : List (Aff α)) (a : Aff α)
    (l : Nat) (h : PKids.StSound P path a l ks) : PKids.StSound P path a l (PKids.mapTerminals φ ks) := by
  match ks with
  | .nil => trivial
  | .cons none r => exact PKids.stSound_mapTerminals P φ r path a (l+1) h
  | .cons (some k) r => exact ⟨PT.stSound_mapTerminals P φ k _ h.1, PKids.stSound_mapTerminals P φ r path a (l+1) h.2⟩
end

theorem PKids.stSound_composeP {σ : Type} (P : List (Aff α) → NState α → Prop) (hind : ∀ p, P p .indeterminate) (S : Schema α) (ex : Explore σ α) (n : Nat)
    (path : List (Aff α)) (paff : Aff α) (ks : PKids α) (l : Nat) (g : PT α) (s : σ) (c : Nat)
    (h : PKids.StSound P path paff l ks) :
    PKids.StSound P path paff l (PKids.composeP S ex n path paff ks l g s c).1 :=
  PKids.stSound_regrown P hind (PKids.composeP_regrown S ex n path paff ks l g s c) path paff l h

theorem PT.stSound_composeP {σ : Type} (P : List (Aff α) → NState α → Prop) (hind : ∀ p, P p .indeterminate) (S : Schema α) (ex : Explore σ α) (n : Nat) (path : List (Aff α))
    (f g : PT α) (s : σ) (c : Nat) (h : PT.StSound P path f) :
    PT.StSound P path (PT.composeP S ex n path f g s c).1 :=
  match f with
  | .node i fc ks =>
    PT.stSound_regrown P hind (PT.composeP_regrown S ex n path i fc ks g s c) path
      (PKids.stSound_composeP P hind S ex n path fc.aff ks 0 g s c) h

/-- the label-0 child that replaces a decision with two equal terminal children moves one step up: its path loses
    the decision's half-space -/
theorem PKids.stSound_reduceAux (P : List (Aff α) → NState α → Prop) (hP : StPred P) (ks : PKids α) (path : List (Aff α)) (a : Aff α) (l : Nat)
    (h : PKids.StSound P path a l ks) : PKids.StSound P path a l (PKids.reduceAux ks) := by
  induction ks using IKids.nested_ind generalizing path a l with
  | nil => trivial
  | none r ih => exact ih path a (l+1) h
  | some i c ks r ihk ih =>
    refine ⟨?_, ih path a (l+1) h.2⟩
    have hk := ihk _ c.aff 0 h.1.2
    rcases PT.reduceAux_node false i c ks with he | ⟨a', b, he, _, hks, _⟩ <;> rw [he]
    · exact ⟨h.1.1, hk⟩
    · rw [hks] at hk
      exact (PT.stSound_move_both P).1 a' _ _ (hP.move fun _ => List.mem_append_left _) hk.1

/-- `reduce` leaves the root where it is -/
theorem PT.stSound_reduce (P : List (Aff α) → NState α → Prop) (hP : StPred P) (t : PT α) (path : List (Aff α))
    (h : PT.StSound P path t) : PT.StSound P path (PT.reduce t) :=
  match t with
  | .node _ c ks => ⟨h.1, PKids.stSound_reduceAux P hP ks path c.aff 0 h.2⟩

theorem PT.stSound_elimNode {σ : Type} (P : List (Aff α) → NState α → Prop) (hP : StPred P) (tol : α) (O : Oracles σ α) (n : Nat)
    (hphase : ∀ (s : σ) (node : Nat) (pst : NState α) (path : List (Aff α)) (hyper : Aff α), P path pst →
      P (path ++ [hyper]) (decideNode tol O s node pst path hyper n).1)
    (isRoot : Bool) (path : List (Aff α)) (st : NState α) (t : PT α) (s : σ)
    (hok : PT.ElimOK t) (hc : PKids.StSound P path t.val.aff 0 t.kids)
    (hst : P path st) :
    PT.StSound P path (elimNode tol O n isRoot path st t s).1 :=
  (PT.stSound_elim_both P hP.toFwd tol O n hphase).1 t isRoot path st s hok hc hst

end
end AV
