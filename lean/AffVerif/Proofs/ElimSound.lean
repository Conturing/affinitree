import AffVerif.Proofs.Phases
import AffVerif.Proofs.PruneSound
/-!
`infeasible_elimination` (C03 part 2, C06, C11). What the sweep does to a child, to a finished node and to the slot
list is stated once for all its properties (`elimChild_elim`, `elimNode_elim`, `removeLabels_induct`). Soundness: for
an LP backend that is right whenever it answers "infeasible" and arbitrary otherwise, and any `mirror_points`, the swept
tree is observed like the original at every input (`PT.obs_elim_both`).
-/
set_option linter.unusedSectionVars false
namespace AV

section Structure
variable {α : Type}

@[simp] theorem NState.isInfeasible_iff (st : NState α) : st.isInfeasible = true ↔ st = .infeasible := by
  cases st <;> simp [NState.isInfeasible]

theorem not_indeterminate_cases (st : NState α) (h : st ≠ .indeterminate) :
    st = .infeasible ∨ st.isFeasible = true := by
  cases st with
  | indeterminate => exact absurd rfl h
  | infeasible => exact Or.inl rfl
  | _ => exact Or.inr rfl

theorem isFeasible_cases (st : NState α) (h : st.isFeasible = true) : st = .feasible ∨ ∃ ws, st = .witness ws := by
  cases st with
  | feasible => exact Or.inl rfl
  | witness ws => exact Or.inr ⟨ws, rfl⟩
  | _ => cases h

theorem forwardLabel?_eq_some (ks : PKids α) (l : Nat) (h : forwardLabel? ks = some l) :
    ∃ a b : PT α, ks = .cons (some a) (.cons (some b) .nil) ∧
      ((l = 0 ∧ a.val.state.isInfeasible = false ∧ b.val.state.isInfeasible = true) ∨
       (l = 1 ∧ a.val.state.isInfeasible = true ∧ b.val.state.isInfeasible = false)) := by
  unfold forwardLabel? at h
  split at h
  · rename_i a b
    refine ⟨a, b, rfl, ?_⟩
    split at h
    · rename_i h1
      simp only [Bool.and_eq_true, Bool.not_eq_true'] at h1
      exact Or.inl ⟨by simpa using h.symm, h1.1, h1.2⟩
    · split at h
      · rename_i h2
        simp only [Bool.and_eq_true, Bool.not_eq_true'] at h2
        exact Or.inr ⟨by simpa using h.symm, h2.1, h2.2⟩
      · cases h
  · cases h

theorem removeLabels_induct {Q : PKids α → Prop} (ks : PKids α) (ls : List Nat)
    (hset : ∀ ks, ∀ l ∈ ls, 1 < ks.count → Q ks → Q (ks.set l none)) (h : Q ks) : Q (removeLabels ks ls) := by
  induction ls generalizing ks with
  | nil => exact h
  | cons l ls ih =>
    have ih' := fun ks => ih ks (fun ks l hl => hset ks l (List.mem_cons_of_mem _ hl))
    show Q (if ks.count > 1 then removeLabels (ks.set l none) ls else removeLabels ks ls)
    split
    · rename_i hc; exact ih' _ (hset ks l List.mem_cons_self hc h)
    · exact ih' _ h

theorem removeLabels_count_le (ks : PKids α) (ls : List Nat) : (removeLabels ks ls).count ≤ ks.count :=
  removeLabels_induct (Q := fun k => k.count ≤ ks.count) ks ls
    (fun k l _ _ hk => Nat.le_trans (IKids.count_set_none k l).1 hk) (Nat.le_refl _)

theorem removeLabels_get? (ks : PKids α) (ls : List Nat) (j : Nat) (hj : j ∉ ls) :
    (removeLabels ks ls).get? j = ks.get? j :=
  removeLabels_induct (Q := fun k => k.get? j = ks.get? j) ks ls
    (fun k l hl _ hk => by rw [IKids.get?_set_none, if_neg (fun e : j = l => hj (e ▸ hl)), hk]) rfl

theorem removeLabels_allNone (ks : PKids α) (ls : List Nat) : (removeLabels ks ls).allNone = ks.allNone :=
  removeLabels_induct (Q := fun k => k.allNone = ks.allNone) ks ls
    (fun k l _ hc hk => by
      have := (IKids.count_set_none k l).2
      rw [← hk, allNone_false_of_count k (by omega), allNone_false_of_count (k.set l none) (by omega)]) rfl

theorem removeLabels_get?_some (ks : PKids α) (ls : List Nat) (j : Nat) (ch : PT α)
    (h : (removeLabels ks ls).get? j = some ch) : ks.get? j = some ch :=
  removeLabels_induct (Q := fun k => k.get? j = some ch → ks.get? j = some ch) ks ls
    (fun k l _ _ hk h => hk (by rw [IKids.get?_set_none] at h; split at h <;> [cases h; exact h])) id h

theorem removeLabels_removed (ks : PKids α) (ls : List Nat) (h : 2 ≤ (removeLabels ks ls).count) :
    ∀ j ∈ ls, (removeLabels ks ls).get? j = none := by
  induction ls generalizing ks with
  | nil => intro j hj; cases hj
  | cons l ls ih =>
    unfold removeLabels at h ⊢
    split
    · rename_i hc
      rw [if_pos hc] at h
      intro j hj
      rcases List.mem_cons.mp hj with rfl | hj
      · cases hg : (removeLabels (ks.set j none) ls).get? j with
        | none => rfl
        | some ch => have := removeLabels_get?_some _ _ _ _ hg; rw [IKids.get?_set_none, if_pos rfl] at this; cases this
      · exact ih _ h j hj
    · rename_i hc
      rw [if_neg hc] at h
      have := removeLabels_count_le ks ls
      omega

-- classes as implicit binders: see DESIGN.md §2
variable {_ : Zero α} {_ : One α} {_ : Add α} {_ : Mul α} {_ : Neg α} {_ : Sub α} {_ : LE α} {_ : DecidableLE α}

/-- what `elimKids` does with one existing child at label `l`: processed child, oracle state,
    "newly infeasible", "was indeterminate on entry" (a definition's classes are not fixed by unification:
    instance binders of its own) -/
def elimChild {σ : Type} [Zero α] [One α] [Add α] [Mul α] [Neg α] [Sub α] [LE α] [DecidableLE α] (tol : α)
    (O : Oracles σ α) (n : Nat) (path : List (Aff α)) (paff : Aff α) (pst : NState α) (ch : PT α) (l : Nat) (s : σ) :
    PT α × σ × Bool × Bool :=
  match ch.val.state with
  | .infeasible => (ch, s, false, false)
  | .indeterminate =>
    let d := decideNode tol O s ch.idx pst path (halfspace paff l) n
    if d.1.isInfeasible then (.node ch.idx ⟨ch.val.aff, d.1⟩ ch.kids, d.2, true, true)
    else
      let sub := elimNode tol O n false (path ++ [halfspace paff l]) d.1 ch d.2
      (sub.1, sub.2, false, true)
  | .feasible =>
    let sub := elimNode tol O n false (path ++ [halfspace paff l]) .feasible ch s
    (sub.1, sub.2, false, false)
  | .witness ws =>
    let sub := elimNode tol O n false (path ++ [halfspace paff l]) (.witness ws) ch s
    (sub.1, sub.2, false, false)

variable {σ : Type} (tol : α) (O : Oracles σ α) (n : Nat)

theorem elimKids_cons_some (path : List (Aff α)) (paff : Aff α) (pst : NState α) (ch : PT α) (r : PKids α) (l : Nat) (s : σ) :
    elimKids tol O n path paff pst (.cons (some ch) r) l s =
      (let c := elimChild tol O n path paff pst ch l s
       let r' := elimKids tol O n path paff pst r (l+1) c.2.1
       ⟨.cons (some c.1) r'.kids, r'.st, if c.2.2.1 then l :: r'.newInf else r'.newInf,
        if r.count = 0 then c.2.2.2 else r'.lastFresh⟩) := by
  obtain ⟨j, ⟨aff, st⟩, kk⟩ := ch
  cases st with
  | indeterminate =>
    -- the model decides "newly infeasible?" outside the record it returns, `elimChild` inside
    exact (apply_ite (fun c : PT α × σ × Bool × Bool =>
      let r' := elimKids tol O n path paff pst r (l+1) c.2.1
      (⟨.cons (some c.1) r'.kids, r'.st, if c.2.2.1 then l :: r'.newInf else r'.newInf,
        if r.count = 0 then c.2.2.2 else r'.lastFresh⟩ : KidsRes σ α))
      ((decideNode tol O s j pst path (halfspace paff l) n).1.isInfeasible = true)
      (_, _, true, true) (_, _, false, true)).symm
  | _ => rfl

theorem elimKids_nil (path : List (Aff α)) (paff : Aff α) (pst : NState α) (l : Nat) (s : σ) :
    elimKids tol O n path paff pst .nil l s = ⟨.nil, s, [], false⟩ := rfl

/-- the three things that can happen to a child: it is cached infeasible and skipped; it was undecided and is now
    marked infeasible (and reported in `newInf`); or it is swept, entered with its cached feasible state or with the
    state just decided, which is not infeasible. Callers pass `_ rfl` for `d hd`. -/
theorem elimChild_elim {motive : PT α × σ × Bool × Bool → Prop} (path : List (Aff α)) (paff : Aff α) (pst : NState α)
    (ch : PT α) (l : Nat) (s : σ) (d : NState α × σ) (hd : decideNode tol O s ch.idx pst path (halfspace paff l) n = d)
    (skip : ch.val.state = .infeasible → motive (ch, s, false, false))
    (marked : ch.val.state = .indeterminate → d.1.isInfeasible = true →
      motive (.node ch.idx ⟨ch.val.aff, d.1⟩ ch.kids, d.2, true, true))
    (swept : ∀ st' s' fresh, st'.isInfeasible = false →
      (st' = ch.val.state ∧ st'.isFeasible = true ∧ fresh = false ∨
        ch.val.state = .indeterminate ∧ st' = d.1 ∧ fresh = true) →
      motive ((elimNode tol O n false (path ++ [halfspace paff l]) st' ch s').1,
        (elimNode tol O n false (path ++ [halfspace paff l]) st' ch s').2, false, fresh)) :
    motive (elimChild tol O n path paff pst ch l s) := by
  unfold elimChild
  rw [hd]
  cases hs : ch.val.state with
  | infeasible => exact skip hs
  | indeterminate =>
    simp only
    split
    · rename_i hi; exact marked hs hi
    · rename_i hi; exact swept _ _ _ (Bool.eq_false_iff.2 hi) (Or.inr ⟨hs, rfl, rfl⟩)
  | _ => exact swept _ _ _ rfl (Or.inl ⟨hs.symm, rfl, rfl⟩)

theorem elimKids_count (path : List (Aff α)) (paff : Aff α) (pst : NState α) (ks : PKids α) (l : Nat) (s : σ) :
    (elimKids tol O n path paff pst ks l s).kids.count = ks.count := by
  induction ks using IKids.slots_ind generalizing l s with
  | nil => rfl
  | none r ih => exact ih (l+1) s
  | some ch r ih => rw [elimKids_cons_some]; exact congrArg Nat.succ (ih (l+1) _)

theorem elimKids_allNone (path : List (Aff α)) (paff : Aff α) (pst : NState α) (ks : PKids α) (l : Nat) (s : σ) :
    (elimKids tol O n path paff pst ks l s).kids.allNone = ks.allNone :=
  allNone_eq_of_count_eq _ _ (elimKids_count tol O n path paff pst ks l s)

theorem elimKids_length (path : List (Aff α)) (paff : Aff α) (pst : NState α) (ks : PKids α) (l : Nat) (s : σ) :
    (elimKids tol O n path paff pst ks l s).kids.length = ks.length := by
  induction ks using IKids.slots_ind generalizing l s with
  | nil => rfl
  | none r ih => exact congrArg Nat.succ (ih (l+1) s)
  | some ch r ih => rw [elimKids_cons_some]; exact congrArg Nat.succ (ih (l+1) _)

theorem elimKids_newInf (path : List (Aff α)) (paff : Aff α) (pst : NState α) (ks : PKids α) (l : Nat) (s : σ) :
    ∀ j ∈ (elimKids tol O n path paff pst ks l s).newInf, ∃ ch,
      (j, ch) ∈ (elimKids tol O n path paff pst ks l s).kids.existingFrom l ∧ ch.val.state.isInfeasible = true := by
  induction ks using IKids.slots_ind generalizing l s with
  | nil => exact fun _ h => by cases h
  | none r ih => exact ih (l+1) s
  | some ch r ih =>
    rw [elimKids_cons_some]
    have hfl : (elimChild tol O n path paff pst ch l s).2.2.1 = true →
        (elimChild tol O n path paff pst ch l s).1.val.state.isInfeasible = true :=
      elimChild_elim (motive := fun c => c.2.2.1 = true → c.1.val.state.isInfeasible = true) tol O n path paff pst ch l s
        _ rfl (fun _ => Bool.noConfusion) (fun _ hi _ => hi) (fun _ _ _ _ _ => Bool.noConfusion)
    generalize elimChild tol O n path paff pst ch l s = c at hfl ⊢
    obtain ⟨c1, s1, fl, lf⟩ := c
    intro j hj
    have tail := fun hj => (ih (l+1) s1 j hj).imp fun _ h => And.imp_left (List.mem_cons_of_mem (l, c1)) h
    cases fl with
    | false => exact tail hj
    | true => exact (List.mem_cons.1 hj).elim (fun e => e ▸ ⟨c1, List.mem_cons_self, hfl rfl⟩) tail

/-- the tail of `elimNode`. The node stays and loses children marked infeasible, never the last one: the newly
    infeasible ones when `forward_if_redundant` does not fire, the one of two that is marked infeasible when it fires
    at the root. Below the root, where it fires — last child freshly decided, exactly one of two children marked
    infeasible — the other child takes the node's place. Callers pass `_ rfl` for `r hr`: the name keeps the premises
    readable and lets a user rewrite `r.kids`. -/
theorem elimNode_elim {motive : PT α → Prop} (isRoot : Bool) (path : List (Aff α)) (st : NState α) (i : Nat)
    (c : Content α) (ks : PKids α) (s : σ) (r : KidsRes σ α) (hr : elimKids tol O n path c.aff st ks 0 s = r)
    (node : ∀ ls : List Nat, (∀ j ∈ ls, ∃ ch, r.kids.get? j = some ch ∧ ch.val.state.isInfeasible = true) →
      (ls = r.newInf ∧ (r.lastFresh = false ∨ forwardLabel? r.kids = none) ∨
        isRoot = true ∧ (removeLabels r.kids ls).count = 1) →
      motive (.node i ⟨c.aff, st⟩ (removeLabels r.kids ls)))
    (fwd : isRoot = false → ∀ a b, r.kids = .cons (some a) (.cons (some b) .nil) →
      (a.val.state.isInfeasible = false → b.val.state.isInfeasible = true → motive a) ∧
      (a.val.state.isInfeasible = true → b.val.state.isInfeasible = false → motive b)) :
    motive (elimNode tol O n isRoot path st (.node i c ks) s).1 := by
  have hnew : ∀ j ∈ r.newInf, ∃ ch, r.kids.get? j = some ch ∧ ch.val.state.isInfeasible = true := fun j hj => by
    obtain ⟨ch, hm, hi⟩ := elimKids_newInf tol O n path c.aff st ks 0 s j (hr ▸ hj)
    obtain ⟨k, e, hk⟩ := (IKids.mem_existingFrom _ 0 j ch).1 hm
    exact ⟨ch, hr ▸ (e.trans (Nat.zero_add k)) ▸ hk, hi⟩
  rw [elimNode, hr]
  split
  · rename_i l hl
    obtain ⟨a, b, hks, h⟩ := forwardLabel?_eq_some r.kids l (by split at hl <;> [exact hl; cases hl])
    rw [hks] at node ⊢
    cases isRoot with
    | false =>
      rcases h with ⟨rfl, ha, hb⟩ | ⟨rfl, ha, hb⟩
      · exact (fwd rfl a b hks).1 ha hb
      · exact (fwd rfl a b hks).2 ha hb
    | true =>
      rcases h with ⟨rfl, ha, hb⟩ | ⟨rfl, ha, hb⟩
      · exact node [1] (fun j hj => List.mem_singleton.1 hj ▸ ⟨b, rfl, hb⟩) (Or.inr ⟨rfl, rfl⟩)
      · exact node [0] (fun j hj => List.mem_singleton.1 hj ▸ ⟨a, rfl, ha⟩) (Or.inr ⟨rfl, rfl⟩)
  · rename_i hl
    refine node _ hnew (Or.inl ⟨rfl, ?_⟩)
    cases hlf : r.lastFresh with
    | false => exact Or.inl rfl
    | true => rw [hlf] at hl; exact Or.inr hl

theorem elimNode_state (isRoot : Bool) (path : List (Aff α)) (st : NState α) (t : PT α) (s : σ)
    (hst : st.isInfeasible = false) :
    (elimNode tol O n isRoot path st t s).1.val.state.isInfeasible = false :=
  match t with
  | .node i c ks =>
    elimNode_elim (motive := fun t => t.val.state.isInfeasible = false) tol O n isRoot path st i c ks s _ rfl
      (fun _ _ _ => hst) fun _ _ _ _ => ⟨fun ha _ => ha, fun _ hb => hb⟩

theorem elimKids_infeasible (path : List (Aff α)) (paff : Aff α) (pst : NState α) (ks : PKids α) (l : Nat) (s : σ) :
    ∀ j ch, (j, ch) ∈ (elimKids tol O n path paff pst ks l s).kids.existingFrom l → ch.val.state = .infeasible →
      j ∈ (elimKids tol O n path paff pst ks l s).newInf ∨
      ∃ ch0, (j, ch0) ∈ ks.existingFrom l ∧ ch0.val.state = .infeasible := by
  induction ks using IKids.slots_ind generalizing l s with
  | nil => exact fun _ _ h => by cases h
  | none r ih => exact ih (l+1) s
  | some c0 r ih =>
    rw [elimKids_cons_some]
    have h0 : (elimChild tol O n path paff pst c0 l s).1.val.state = .infeasible →
        (elimChild tol O n path paff pst c0 l s).2.2.1 = true ∨ c0.val.state = .infeasible :=
      elimChild_elim (motive := fun c => c.1.val.state = .infeasible → c.2.2.1 = true ∨ c0.val.state = .infeasible)
        tol O n path paff pst c0 l s _ rfl (fun hs _ => Or.inr hs) (fun _ _ _ => Or.inl rfl)
        (fun st' s' _ hst' _ hi => absurd (elimNode_state tol O n false _ st' c0 s' hst') (by rw [hi]; exact Bool.noConfusion))
    generalize elimChild tol O n path paff pst c0 l s = c at h0 ⊢
    obtain ⟨c1, s1, fl, lf⟩ := c
    intro j ch hj hi
    rcases List.mem_cons.1 hj with e | hj
    · cases e
      rcases h0 hi with rfl | h
      · exact Or.inl List.mem_cons_self
      · exact Or.inr ⟨c0, List.mem_cons_self, h⟩
    · refine (ih (l+1) s1 j ch hj hi).imp (fun h => ?_) fun ⟨ch0, h, hi0⟩ => ⟨ch0, List.mem_cons_of_mem _ h, hi0⟩
      cases fl <;> [exact h; exact List.mem_cons_of_mem _ h]

end Structure

variable {α : Type} [Field α] [LinearOrder α] [IsStrictOrderedRing α] {β : Type}

theorem feasible_not_infeasible (st : NState α) (h : st.isFeasible = true) : st.isInfeasible = false := by
  cases st with
  | feasible => rfl
  | witness _ => rfl
  | _ => cases h

theorem feasible_flags (st : NState α) (h : st.isFeasible = true) : st.isInfeasible = false ∧ st ≠ .infeasible := by
  cases st with
  | feasible => exact ⟨rfl, fun e => nomatch e⟩
  | witness _ => exact ⟨rfl, fun e => nomatch e⟩
  | _ => cases h

theorem forwardLabel_spec (ks : PKids α) (l : Nat) (h : forwardLabel? ks = some l) :
    ∃ a b : PT α, ks = .cons (some a) (.cons (some b) .nil) ∧
      ((l = 0 ∧ a.val.state.isInfeasible = false ∧ b.val.state.isInfeasible = true) ∨
       (l = 1 ∧ a.val.state.isInfeasible = true ∧ b.val.state.isInfeasible = false)) :=
  forwardLabel?_eq_some ks l h

/-- the phases mark a node infeasible only on the solver's word, so with a sound solver its region is empty -/
theorem Decided.sound {σ : Type} {tol : α} {O : Oracles σ α} {s : σ} {node : Nat} {pst : NState α}
    {path : List (Aff α)} {hyper : Aff α} {n : Nat} {r : NState α} (hd : Decided tol O s node pst path hyper n r)
    (hlp : InfeasibleSound O.lp) (h : r.isInfeasible = true) : ¬ ∃ x, InPath (path ++ [hyper]) x := by
  rintro ⟨x, hx⟩
  cases hd with
  | solved s' _ hs =>
    cases hs with
    | infeasible hi => exact hlp s' _ _ hi ⟨x, (Poly.mem_intersectionN n _ x).2 hx⟩
    | _ => cases h
  | _ => cases h

mutual
/-- `f index map` at the terminal `x` reaches; `eval`, `find_terminal` and `leafAt` are such observations
    (`PT.eval_eq_obs`, `PT.obs_idx`, `PT.obs_aff`) -/
def PT.obs (f : Nat → Aff α → β) : PT α → List α → Option β
  | .node i c kids, x => if kids.allNone then some (f i c.aff) else PKids.obsAt f kids (c.aff.label x) x
def PKids.obsAt (f : Nat → Aff α → β) : PKids α → Nat → List α → Option β
  | .nil, _, _ => none
  | .cons none _, 0, _ => none
  | .cons (some t) _, 0, x => PT.obs f t x
  | .cons _ r, n+1, x => PKids.obsAt f r n x
end

theorem PKids.obsAt_eq_get? (f : Nat → Aff α → β) (ks : PKids α) (lab : Nat) (x : List α) :
    PKids.obsAt f ks lab x = (ks.get? lab).bind (fun t => PT.obs f t x) := by
  induction ks using IKids.slots_ind generalizing lab with
  | nil => rfl
  | none r ih => cases lab with
    | zero => rfl
    | succ lab => exact ih lab
  | some t r ih => cases lab with
    | zero => rfl
    | succ lab => exact ih lab

theorem PT.eval_eq_obs (t : PT α) (x : List α) : PT.eval t x = PT.obs (fun _ a => a.apply x) t x := by
  revert t
  refine (ITree.ind (Q := fun ks => ∀ lab, PKids.evalAt ks lab x = PKids.obsAt (fun _ a => a.apply x) ks lab x)
    ?_ (fun _ => rfl) ?_ ?_).1
  · exact fun i c ks ih => congrArg (fun o => if ks.allNone then some (c.aff.apply x) else o) (ih _)
  · intro r ih lab
    cases lab with
    | zero => rfl
    | succ lab => exact ih lab
  · intro t r iht ih lab
    cases lab with
    | zero => exact iht
    | succ lab => exact ih lab

mutual
/-- what the sweep needs of the tree: binary nodes whose decisions are well-formed one-row predicates -/
def PT.ElimOK : PT α → Prop
  | .node _ c ks => ks.length = 2 ∧ (ks.allNone = false → c.aff.WF ∧ c.aff.outdim ≤ 1) ∧ PKids.ElimOK ks
def PKids.ElimOK : PKids α → Prop
  | .nil => True
  | .cons none r => PKids.ElimOK r
  | .cons (some t) r => PT.ElimOK t ∧ PKids.ElimOK r
end

/-- C03 / C11 for `infeasible_elimination`: the swept sub-tree is observed like the original at every input that
    satisfies the path conditions, for every oracle that is right about infeasibility -/
theorem PT.obs_elim_both {σ : Type} (f : Nat → Aff α → β) (tol : α) (O : Oracles σ α) (hlp : InfeasibleSound O.lp) (n : Nat)
    (x : List α) :
    (∀ (t : PT α) (isRoot : Bool) (path : List (Aff α)) (st : NState α) (s : σ), InPath path x → PT.ElimOK t →
      PKids.InfSound path t.val.aff 0 t.kids → PT.obs f (elimNode tol O n isRoot path st t s).1 x = PT.obs f t x) ∧
    (∀ (ks : PKids α) (path : List (Aff α)) (paff : Aff α) (pst : NState α) (l : Nat) (s : σ) (lab : Nat),
      InPath path x → Poly.Mem (halfspace paff (l + lab)) x → PKids.ElimOK ks → PKids.InfSound path paff l ks →
      PKids.obsAt f (elimKids tol O n path paff pst ks l s).kids lab x = PKids.obsAt f ks lab x ∧
      ∀ ch, (elimKids tol O n path paff pst ks l s).kids.get? lab = some ch → ch.val.state.isInfeasible = false) := by
  refine ITree.ind ?_ (fun _ _ _ _ _ _ _ _ _ _ => ⟨rfl, fun _ h => by cases h⟩) ?_ ?_
  · intro i c ks ih isRoot path st s hx hok hc
    -- at a decision `x` takes a child that is observed as before and is not marked infeasible
    have hk := fun hall : ks.allNone = false => ih path c.aff st 0 s (c.aff.label x) hx
      ((Nat.zero_add _).symm ▸ mem_halfspace_label c.aff x (hok.2.1 hall).1 (hok.2.1 hall).2) hok.2.2 hc
    refine elimNode_elim (motive := fun t => PT.obs f t x = _) tol O n isRoot path st i c ks s _ rfl
      (fun ls hls _ => ?_) fun _ a b hks => ?_
    · rw [PT.obs, PT.obs, removeLabels_allNone, elimKids_allNone tol O n path c.aff st ks 0 s]
      cases hall : ks.allNone with
      | true => rfl
      | false =>
        -- only children marked infeasible go
        refine (?_ : PKids.obsAt f _ _ x = _).trans (hk hall).1
        rw [PKids.obsAt_eq_get?, PKids.obsAt_eq_get?, removeLabels_get?]
        intro hj
        obtain ⟨ch, hch, hi⟩ := hls _ hj
        rw [(hk hall).2 ch hch] at hi; cases hi
    · -- the child `x` takes is the one that takes the node's place
      have hall : ks.allNone = false := by rw [← elimKids_allNone tol O n path c.aff st ks 0 s, hks]; rfl
      have hk := hk hall
      rw [PT.obs, hall, ← hk.1]
      rw [hks] at hk ⊢
      rcases Nat.le_one_iff_eq_zero_or_eq_one.1 (label_le_one c.aff x (hok.2.1 hall).2) with h | h <;> rw [h] at hk ⊢
      · exact ⟨fun _ _ => rfl, fun ha _ => (by rw [hk.2 a rfl] at ha; cases ha)⟩
      · exact ⟨fun _ hb => (by rw [hk.2 b rfl] at hb; cases hb), fun _ _ => rfl⟩
  · intro r ih path paff pst l s lab hx hmem hok hc
    cases lab with
    | zero => exact ⟨rfl, fun _ h => by cases h⟩
    | succ lab => exact ih path paff pst (l+1) s lab hx (Nat.succ_add_eq_add_succ l lab ▸ hmem) hok hc
  · rintro ⟨j, c, kk⟩ r ihch ihr path paff pst l s lab hx hmem hok hc
    rw [elimKids_cons_some]
    cases lab with
    | zero =>
      have hx' := hx.concat hmem
      -- the processed child is observed like the original, and it is not marked infeasible: `x` is in its region
      refine And.imp_right (fun h _ e => Option.some.inj e ▸ h) (elimChild_elim
        (motive := fun c' => PT.obs f c'.1 x = PT.obs f (.node j c kk) x ∧ c'.1.val.state.isInfeasible = false)
        tol O n path paff pst _ l s _ rfl (fun hs => absurd ⟨x, hx'⟩ (hc.1.1 hs))
        (fun _ hi => absurd ⟨x, hx'⟩ ((decideNode_decided tol O s j pst path _ n).sound hlp hi))
        fun st' s' _ hst' _ => ⟨ihch false _ st' s' hx' hok.1 hc.1.2, elimNode_state tol O n false _ st' _ s' hst'⟩)
    | succ lab => exact ihr path paff pst (l+1) _ lab hx (Nat.succ_add_eq_add_succ l lab ▸ hmem) hok.2 hc.2

theorem PT.obs_infeasibleElimination {σ : Type} (f : Nat → Aff α → β) (tol : α) (O : Oracles σ α)
    (hlp : InfeasibleSound O.lp) (n : Nat) (t : PT α) (s : σ) (x : List α) (hok : PT.ElimOK t) (hc : PT.InfSound [] t) :
    PT.obs f (infeasibleElimination tol O n t s).1 x = PT.obs f t x := by
  cases t with
  | node i c ks => exact (PT.obs_elim_both f tol O hlp n x).1 _ true [] _ s (fun _ h => by cases h) hok hc.2

end AV
