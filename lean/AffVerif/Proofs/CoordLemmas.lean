import AffVerif.Proofs.VecLemmas
/-!
Coordinates: unit vectors, diagonal-like matrices (`apply_coord`; `slice` is one, `slice_eq_coord`), `List.set`, `dot` as
a sum over positions, and dropping the coordinates on which a row vanishes (`keepOf`, `dot_keep`: `remove_axes`,
`remove_zero_columns`). Over a semiring, for the reason given in `VecLemmas`.
-/
namespace AV

section Structure
-- classes as implicit binders: see DESIGN.md §2
variable {α : Type} {_ : Zero α} {_ : Add α} {_ : Mul α}

theorem unitVec_length (n i : Nat) (c : α) : (unitVec n i c).length = n :=
  (List.length_map _).trans List.length_range

theorem unitVec_succ_zero (n : Nat) (c : α) : unitVec (n + 1) 0 c = c :: zeros n := by
  simp [unitVec, List.range_succ_eq_map, zeros, Function.comp_def, List.map_const']

theorem unitVec_succ_succ (n i : Nat) (c : α) : unitVec (n + 1) (i + 1) c = 0 :: unitVec n i c := by
  simp [unitVec, List.range_succ_eq_map, Function.comp_def]

theorem getD_unitVec (n i k : Nat) (c : α) (hk : k < n) : (unitVec n i c).getD k 0 = if k = i then c else 0 := by
  simp [unitVec, List.getD_eq_getElem?_getD, List.getElem?_map, List.getElem?_range hk]

theorem replicate_eq_range_map {γ : Type} (n : Nat) (c : γ) : List.replicate n c = (List.range n).map (fun _ => c) := by
  rw [List.map_const', List.length_range]

theorem unitVec_zero (n i : Nat) : (unitVec n i 0 : List α) = zeros n := by
  rw [unitVec, zeros, replicate_eq_range_map]; simp only [ite_self]

theorem map_eq_range_map {γ δ : Type} (l : List γ) (g : γ → δ) (d : γ) :
    l.map g = (List.range l.length).map (fun k => g (l.getD k d)) := by
  apply List.ext_getElem
  · simp
  · intro i h1 h2
    simp only [List.length_map] at h1
    simp [List.getD_eq_getElem?_getD, h1]

theorem range_map_getD {γ : Type} (l : List γ) (d : γ) : (List.range l.length).map (fun k => l.getD k d) = l :=
  (map_eq_range_map l id d).symm.trans (List.map_id l)

theorem vadd_range_map (n : Nat) (f g : Nat → α) :
    vadd ((List.range n).map f) ((List.range n).map g) = (List.range n).map (fun k => f k + g k) := by
  rw [vadd_eq_zipWith, List.zipWith_map_left, List.zipWith_map_right, List.zipWith_self]

theorem apply_oneRow (r : List α) (b : α) (n : Nat) (x : List α) : (⟨[r], [b], n⟩ : Aff α).apply x = [dot r x + b] := rfl

/-- `slice` coordinate by coordinate: axis `k` is kept (`1·x_k + 0`) or fixed (`0·x_k + v`) -/
theorem slice_eq_coord {_ : One α} (ref : List (Option α)) :
    (Aff.slice ref : Aff α) = ⟨(List.range ref.length).map (fun k => unitVec ref.length k
        (match ref.getD k none with | none => 1 | some _ => 0)),
      (List.range ref.length).map (fun k => match ref.getD k none with | none => 0 | some v => v), ref.length⟩ := by
  unfold Aff.slice diag
  rw [List.length_map]
  refine congrArg₂ (Aff.mk · · _) (List.map_congr_left fun k hk => congrArg (unitVec _ k) ?_) (map_eq_range_map ref _ none)
  rw [List.getD_eq_getElem?_getD, List.getElem?_map, List.getD_eq_getElem?_getD,
    List.getElem?_eq_getElem (List.mem_range.mp hk)]
  rfl

end Structure

variable {α : Type} [Semiring α]

theorem range_map_set (x : List α) (r : Nat) (v : α) :
    (List.range x.length).map (fun k => if k = r then v else x.getD k 0) = x.set r v := by
  apply List.ext_getElem
  · simp
  · intro i h1 h2
    simp only [List.length_map, List.length_range] at h1
    simp only [List.getElem_map, List.getElem_range, List.getElem_set]
    by_cases h : i = r
    · subst h; simp
    · have : ¬ r = i := fun e => h e.symm
      simp [h, this, List.getD_eq_getElem?_getD, h1]

theorem set_getD_self (x : List α) (r : Nat) : x.set r (x.getD r 0) = x := by
  rw [← range_map_set]
  conv_rhs => rw [← range_map_getD x 0]
  exact List.map_congr_left fun k _ => by split <;> simp [*]

theorem dot_unitVec (n i : Nat) (c : α) (x : List α) :
    dot (unitVec n i c) x = if i < n then c * x.getD i 0 else 0 := by
  induction n generalizing i x with
  | zero => rfl
  | succ n ih =>
    cases x with
    | nil => rw [dot_nil_right, List.getD_nil, mul_zero, ite_self]
    | cons a x =>
      cases i with
      | zero => rw [unitVec_succ_zero, dot_cons, dot_zeros_left, add_zero, if_pos n.succ_pos]; rfl
      | succ i =>
        rw [unitVec_succ_succ, dot_cons, zero_mul, zero_add, ih, List.getD_cons_succ]
        simp only [Nat.succ_lt_succ_iff]

theorem dot_unitVec_lt {n i : Nat} (h : i < n) (c : α) (x : List α) : dot (unitVec n i c) x = c * x.getD i 0 := by
  rw [dot_unitVec, if_pos h]

theorem matVec_diagLike (n : Nat) (d : Nat → α) (x : List α) :
    matVec ((List.range n).map (fun k => unitVec n k (d k))) x = (List.range n).map (fun k => d k * x.getD k 0) := by
  rw [matVec, List.map_map]
  exact List.map_congr_left fun k hk => dot_unitVec_lt (List.mem_range.mp hk) _ x

theorem apply_coord (n : Nat) (d b : Nat → α) (x : List α) :
    (⟨(List.range n).map (fun k => unitVec n k (d k)), (List.range n).map b, n⟩ : Aff α).apply x =
      (List.range n).map (fun k => d k * x.getD k 0 + b k) := by
  unfold Aff.apply
  simp only
  rw [matVec_diagLike, vadd_range_map]

theorem matVec_eye (n : Nat) (x : List α) (hx : x.length = n) : matVec (eye n) x = x := by
  subst hx
  unfold eye
  rw [matVec_diagLike x.length (fun _ => 1) x]
  simp only [one_mul]
  exact range_map_getD x 0

theorem sum_map_zero {β : Type} (l : List β) : (l.map fun _ => (0 : α)).sum = 0 := by
  induction l with
  | nil => rfl
  | cons _ l ih => rw [List.map_cons, List.sum_cons, ih, add_zero]

/-- entries beyond either list count as `0` -/
theorem dot_eq_sum_range (r x : List α) :
    dot r x = ((List.range r.length).map (fun j => r.getD j 0 * x.getD j 0)).sum := by
  induction r generalizing x with
  | nil => rfl
  | cons a r ih =>
    cases x with
    | nil =>
      simp only [dot_nil_right, List.getD_nil, mul_zero]
      exact (sum_map_zero _).symm
    | cons b x =>
      rw [dot_cons, ih x, List.length_cons, List.range_succ_eq_map, List.map_cons, List.sum_cons, List.map_map]; rfl

theorem dot_range_map (n : Nat) (f : Nat → α) (x : List α) :
    dot ((List.range n).map f) x = ((List.range n).map (fun j => f j * x.getD j 0)).sum := by
  rw [dot_eq_sum_range, List.length_map, List.length_range]
  refine congrArg _ (List.map_congr_left fun j hj => ?_)
  rw [List.getD_eq_getElem?_getD, List.getElem?_map, List.getElem?_range (List.mem_range.mp hj)]; rfl

theorem dot_map_map {β : Type} (l : List β) (f g : β → α) :
    dot (l.map f) (l.map g) = (l.map (fun j => f j * g j)).sum := by
  induction l with
  | nil => rfl
  | cons j l ih => rw [List.map_cons, List.map_cons, dot_cons, ih, List.map_cons, List.sum_cons]

theorem sum_map_filter {β : Type} (l : List β) (p : β → Bool) (f : β → α) (h : ∀ j ∈ l, p j = false → f j = 0) :
    ((l.filter p).map f).sum = (l.map f).sum := by
  induction l with
  | nil => rfl
  | cons j l ih =>
    rw [List.forall_mem_cons] at h
    rw [List.filter_cons, List.map_cons, List.sum_cons, ← ih h.2]
    cases hp : p j
    · rw [h.1 hp, zero_add]; rfl
    · rfl

def keepOf (n : Nat) (p : Nat → Bool) : List Nat := (List.range n).filter p

/-- both sides are sums over positions, and the dropped terms are zero -/
theorem dot_keep (n : Nat) (p : Nat → Bool) (r x : List α) (hr : r.length = n)
    (hz : ∀ j < n, p j = false → r.getD j 0 = 0) :
    dot ((keepOf n p).map (fun j => r.getD j 0)) ((keepOf n p).map (fun j => x.getD j 0)) = dot r x := by
  rw [dot_map_map, keepOf, dot_eq_sum_range, hr]
  exact sum_map_filter _ p _ fun j hj hp => by rw [hz j (List.mem_range.mp hj) hp, zero_mul]

/-- a row that is `f` except for the entry `a` at position `i` -/
theorem dot_range_map_ite {α : Type} [Field α] (n i : Nat) (a : α) (f : Nat → α) (x : List α) :
    dot ((List.range n).map (fun j => if j = i then a else f j)) x =
      dot ((List.range n).map f) x + dot (unitVec n i (a - f i)) x := by
  rw [← dot_vadd_left _ _ _ (by rw [List.length_map, List.length_range, unitVec_length]), unitVec, vadd_range_map]
  refine congrArg (dot · x) (List.map_congr_left fun j _ => ?_)
  split
  · rw [‹j = i›, add_sub_cancel]
  · rw [add_zero]

end AV
