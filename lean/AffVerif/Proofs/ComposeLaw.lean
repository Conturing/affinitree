import AffVerif.Proofs.PolyLemmas
import AffVerif.Proofs.KidsLemmas
import AffVerif.Model.Compose
/-!
The terminal an input reaches (`PT.leafAt`) under `mapTerminals`, `graft` and un-pruned composition, for any schema
whose updated decisions route the input as the originals route a given point; evaluation is "apply the reached
terminal". Then the arithmetic schemas.
-/
set_option linter.unusedSectionVars false
set_option linter.unusedVariables false
namespace AV
section Structure
variable {α : Type}

theorem PKids.graft_allNone (S : Schema α) (ks : PKids α) (t : Aff α) (c : Nat) :
    (PKids.graft S ks t c).1.allNone = ks.allNone := by
  induction ks using IKids.slots_ind with
  | nil => rfl
  | none r ih => exact ih
  | some _ _ _ => rfl

theorem PKids.composeS_allNone (S : Schema α) (ks : PKids α) (g : PT α) (c : Nat) :
    (PKids.composeS S ks g c).1.allNone = ks.allNone := by
  induction ks using IKids.slots_ind with
  | nil => rfl
  | none r ih => exact ih
  | some _ _ _ => rfl

theorem PKids.mapTerminals_allNone (φ : Aff α → Aff α) (ks : PKids α) :
    (PKids.mapTerminals φ ks).allNone = ks.allNone := by
  induction ks using IKids.slots_ind with
  | nil => rfl
  | none r ih => exact ih
  | some _ _ _ => rfl

theorem PT.mapTerminals_terminal {φ : Aff α → Aff α} {i : Nat} {c : Content α} {ks : PKids α} (hl : ks.allNone = true) :
    PT.mapTerminals φ (.node i c ks) = .node i ⟨φ c.aff, c.state⟩ ks := if_pos hl

theorem PT.mapTerminals_decision {φ : Aff α → Aff α} {i : Nat} {c : Content α} {ks : PKids α} (hl : ks.allNone = false) :
    PT.mapTerminals φ (.node i c ks) = .node i c (PKids.mapTerminals φ ks) := if_neg (hl ▸ Bool.false_ne_true)

theorem PT.composeS_terminal {S : Schema α} {i : Nat} {fc : Content α} {ks : PKids α} {g : PT α} {c : Nat}
    (hl : ks.allNone = true) :
    PT.composeS S (.node i fc ks) g c =
      (.node i ⟨S.upd g.kids.allNone g.val.aff fc.aff, fc.state⟩ (PKids.graft S g.kids fc.aff c).1,
        (PKids.graft S g.kids fc.aff c).2) :=
  match g with
  | .node _ _ _ => if_pos hl

theorem PT.composeS_decision {S : Schema α} {i : Nat} {fc : Content α} {ks : PKids α} {g : PT α} {c : Nat}
    (hl : ks.allNone = false) :
    PT.composeS S (.node i fc ks) g c = (.node i fc (PKids.composeS S ks g c).1, (PKids.composeS S ks g c).2) :=
  if_neg (hl ▸ Bool.false_ne_true)

-- classes as implicit binders: see DESIGN.md §2
variable {_ : Zero α} {_ : Add α} {_ : Mul α} {_ : Sub α} {_ : LE α} {_ : DecidableLE α}

theorem eval_eq_leafAt_both (x : List α) :
    (∀ t : PT α, PT.eval t x = (PT.leafAt t x).map (fun u => u.apply x)) ∧
    ∀ (ks : PKids α) l, PKids.evalAt ks l x = (PKids.leafAtK ks l x).map (fun u => u.apply x) := by
  refine ITree.ind (fun i c ks ih => ?_) (fun _ => rfl) (fun r ih l => ?_) (fun k r ihk ih l => ?_)
  · show (if ks.allNone then _ else _) = Option.map _ (if ks.allNone then _ else _)
    split
    · rfl
    · exact ih _
  · cases l with
    | zero => rfl
    | succ l => exact ih l
  · cases l with
    | zero => exact ihk
    | succ l => exact ih l

theorem PT.eval_eq_leafAt (t : PT α) (x : List α) : PT.eval t x = (PT.leafAt t x).map (fun u => u.apply x) :=
  (eval_eq_leafAt_both x).1 t

theorem PKids.evalAt_eq_get? (ks : PKids α) (lab : Nat) (x : List α) :
    PKids.evalAt ks lab x = (ks.get? lab).bind (fun t => PT.eval t x) := by
  induction ks using IKids.slots_ind generalizing lab with
  | nil => rfl
  | none r ih => cases lab with
    | zero => rfl
    | succ lab => exact ih lab
  | some t r ih => cases lab with
    | zero => rfl
    | succ lab => exact ih lab

theorem leafAt_shaped_both (K n m : Nat) (x : List α) (u : Aff α) :
    (∀ t, PT.Shaped K n m t → PT.leafAt t x = some u → u.WF ∧ u.mat.length = m) ∧
    ∀ ks l, PKids.Shaped K n m ks → PKids.leafAtK ks l x = some u → u.WF ∧ u.mat.length = m := by
  refine ITree.ind (fun i c ks ih ht h => ?_) (fun _ _ h => nomatch h) (fun r ih l hk h => ?_) (fun k r ihk ih l hk h => ?_)
  · obtain ⟨hwf, _, _, hout, _, hk⟩ := ht
    change (if ks.allNone then _ else _) = _ at h
    split at h
    · rename_i hl
      obtain rfl := Option.some.inj h
      exact ⟨hwf, hout hl⟩
    · exact ih _ hk h
  · cases l with
    | zero => cases h
    | succ l => exact ih l hk h
  · cases l with
    | zero => exact ihk hk.1 h
    | succ l => exact ih l hk.2 h

theorem leafAt_mapTerminals_both (φ : Aff α → Aff α) (x : List α) :
    (∀ t, PT.leafAt (PT.mapTerminals φ t) x = (PT.leafAt t x).map φ) ∧
    ∀ ks l, PKids.leafAtK (PKids.mapTerminals φ ks) l x = (PKids.leafAtK ks l x).map φ := by
  refine ITree.ind (fun i c ks ih => ?_) (fun _ => rfl) (fun r ih l => ?_) (fun k r ihk ih l => ?_)
  · show _ = Option.map φ (if ks.allNone then _ else _)
    cases hl : ks.allNone with
    | true => rw [PT.mapTerminals_terminal hl]; exact if_pos hl
    | false =>
      rw [PT.mapTerminals_decision hl]
      exact (if_neg (by rw [PKids.mapTerminals_allNone, hl]; exact Bool.false_ne_true)).trans (ih _)
  · cases l with
    | zero => rfl
    | succ l => exact ih l
  · cases l with
    | zero => exact ihk
    | succ l => exact ih l

/-! `hroute`: the updated decisions route `x` as the originals route `y`. The arithmetic schemas copy decisions
(`y = x`); for `Schema.compose` this is `Aff.label_updDecision` (`y = t x`). -/

/-- the copy of `g` is spelled as a node over `PKids.graft` with any index, state and numbering: `PT.graft` and the
    terminal case of `composeS` are both of that form -/
theorem leafAt_graft_both (S : Schema α) (t : Aff α) (x y : List α)
    (hroute : ∀ d, (S.updDecision d t).label x = d.label y) :
    (∀ (g : PT α) i st c, PT.leafAt (.node i ⟨S.upd g.kids.allNone g.val.aff t, st⟩ (PKids.graft S g.kids t c).1) x =
      (PT.leafAt g y).map (fun v => S.updTerminal v t)) ∧
    ∀ ks c l, PKids.leafAtK (PKids.graft S ks t c).1 l x = (PKids.leafAtK ks l y).map (fun v => S.updTerminal v t) := by
  refine ITree.ind (fun j gc ks ih i st c => ?_) (fun _ _ => rfl) (fun r ih c l => ?_) (fun k r ihk ih c l => ?_)
  · show PT.leafAt (.node i ⟨S.upd ks.allNone gc.aff t, st⟩ (PKids.graft S ks t c).1) x = Option.map _ (if ks.allNone then _ else _)
    rw [PT.leafAt, PKids.graft_allNone]
    cases hl : ks.allNone with
    | true => rfl
    | false => exact (congrArg (PKids.leafAtK _ · x) (hroute gc.aff)).trans (ih c _)
  · cases l with
    | zero => rfl
    | succ l => exact ih c l
  · cases l with
    | zero => cases k with | node j gc gk => exact ihk c .indeterminate (c+1)
    | succ l => exact ih _ l

/-- below the terminal `u` that `x` reaches in `a` hangs a copy of `b` that routes `x` as `b` routes `y u` -/
theorem leafAt_composeS_both (S : Schema α) (b : PT α) (x : List α) (y : Aff α → List α) :
    (∀ a c, (∀ u, PT.leafAt a x = some u → ∀ d, (S.updDecision d u).label x = d.label (y u)) →
      PT.leafAt (PT.composeS S a b c).1 x =
        (PT.leafAt a x).bind (fun u => (PT.leafAt b (y u)).map (fun v => S.updTerminal v u))) ∧
    ∀ ks c l, (∀ u, PKids.leafAtK ks l x = some u → ∀ d, (S.updDecision d u).label x = d.label (y u)) →
      PKids.leafAtK (PKids.composeS S ks b c).1 l x =
        (PKids.leafAtK ks l x).bind (fun u => (PT.leafAt b (y u)).map (fun v => S.updTerminal v u)) := by
  refine ITree.ind (fun i ac ks ih c hroute => ?_) (fun _ _ _ => rfl) (fun r ih c l => ?_) (fun k r ihk ih c l => ?_)
  · cases hl : ks.allNone with
    | true =>
      -- the terminal's node becomes the copy of `b`'s root
      have hax : PT.leafAt (.node i ac ks) x = some ac.aff := if_pos hl
      rw [hax, PT.composeS_terminal hl]
      exact (leafAt_graft_both S ac.aff x _ (hroute ac.aff hax)).1 b i ac.state c
    | false =>
      have hn : ¬ ks.allNone = true := hl ▸ Bool.false_ne_true
      have hax : PT.leafAt (.node i ac ks) x = PKids.leafAtK ks (ac.aff.label x) x := if_neg hn
      rw [hax, PT.composeS_decision hl]
      refine (if_neg ?_).trans (ih c _ fun u hu => hroute u (hax.trans hu))
      rwa [PKids.composeS_allNone]
  · cases l with
    | zero => exact fun _ => rfl
    | succ l => exact ih c l
  · cases l with
    | zero => exact ihk c
    | succ l => exact ih _ l

end Structure

variable {α : Type} [Field α] [LinearOrder α] [IsStrictOrderedRing α]

theorem PKids.evalAt_eq_leafAtK (ks : PKids α) (l : Nat) (x : List α) :
    PKids.evalAt ks l x = (PKids.leafAtK ks l x).map (fun u => u.apply x) :=
  (eval_eq_leafAt_both x).2 ks l

theorem leafAtK_shaped (ks : PKids α) (K n m : Nat) (l : Nat) (x : List α) (u : Aff α) (hk : PKids.Shaped K n m ks)
    (h : PKids.leafAtK ks l x = some u) : u.WF ∧ u.mat.length = m :=
  (leafAt_shaped_both K n m x u).2 ks l hk h

theorem PKids.leafAtK_mapTerminals (φ : Aff α → Aff α) (ks : PKids α) (l : Nat) (x : List α) :
    PKids.leafAtK (PKids.mapTerminals φ ks) l x = (PKids.leafAtK ks l x).map φ :=
  (leafAt_mapTerminals_both φ x).2 ks l

theorem Aff.label_updDecision (d t : Aff α) (x : List α) (ht : t.WF) :
    (d.updDecision t).label x = d.label (t.apply x) :=
  Aff.label_of_rows_map _ (Poly.rows_applyPre d t) fun rb _ => dot_vecMat_sub t rb.1 x rb.2 ht

theorem PT.eval_graft (g : PT α) (t : Aff α) (c : Nat) (x : List α) (K m : Nat)
    (ht : t.WF) (hx : x.length = t.indim) (hg : PT.Shaped K t.outdim m g) :
    PT.eval (PT.graft Schema.compose g t c).1 x = PT.eval g (t.apply x) := by
  cases g with | node j gc gk =>
  rw [PT.eval_eq_leafAt, PT.eval_eq_leafAt]
  refine (congrArg _ ((leafAt_graft_both Schema.compose t x (t.apply x) fun d => Aff.label_updDecision d t x ht).1
    (.node j gc gk) c .indeterminate (c+1))).trans ((Option.map_map ..).trans ?_)
  exact congrArg (Option.map · _) (funext fun v => Aff.apply_compose v t x ht)

theorem PT.leafAt_graft_arith (op : Aff α → Aff α → Aff α) (b : PT α) (u : Aff α) (c : Nat) (x : List α) :
    PT.leafAt (PT.graft (Schema.arith op) b u c).1 x = (PT.leafAt b x).map (fun v => op u v) :=
  match b with
  | .node j gc gk => (leafAt_graft_both (Schema.arith op) u x x fun _ => rfl).1 (.node j gc gk) c .indeterminate (c+1)

theorem PKids.leafAtK_composeS_arith (op : Aff α → Aff α → Aff α) (ks : PKids α) (b : PT α) (c : Nat) (l : Nat)
    (x : List α) :
    PKids.leafAtK (PKids.composeS (Schema.arith op) ks b c).1 l x =
      (PKids.leafAtK ks l x).bind (fun u => (PT.leafAt b x).map (fun v => op u v)) :=
  (leafAt_composeS_both (Schema.arith op) b x fun _ => x).2 ks c l fun _ _ _ => rfl

end AV
