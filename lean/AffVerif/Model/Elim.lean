import AffVerif.Model.Compose
/-!
# Infeasible-path elimination (`src/pwl/impl_infeasible_elim.rs`, binary trees)

A depth-first sweep with the closed path polytope. For every non-root node whose cached state is
`Indeterminate`: `phase_inh` (parent witnesses that satisfy the new half-space), `phase_one` (the
`mirror_points` heuristic on the parent's witnesses), `phase_two` (LP `status()`; an "optimal" point that
fails `contains` is repaired with `mirror_points` or the node stays `Indeterminate`). Newly infeasible
children are removed after the sweep (never the last child of a decision); when the last sibling was not
short-circuited by a cached state the parent is replaced by its only child that is not marked infeasible
(`forward_if_redundant`; at the root only the infeasible children are removed).

The LP backend and the float heuristic `mirror_points` are oracles threaded through a state `σ`.
-/
namespace AV
variable {α : Type} [Zero α] [One α] [Add α] [Mul α] [Neg α] [Sub α] [LE α] [DecidableLE α]

/-- `mirror_points(poly, points, n_iterations)` as an oracle: node index (for bookkeeping only), polytope,
    start points, iteration bound ↦ points found -/
abbrev MirrorOracle (σ α : Type) := σ → Nat → Aff α → List (List α) → Nat → Option (List (List α)) × σ

structure Oracles (σ α : Type) where
  lp : LPOracle σ α
  mirror : MirrorOracle σ α

/-- `phase_inh` -/
def phaseInh (tol : α) (parentState : NState α) (hyper : Aff α) : NState α :=
  match parentState with
  | .witness ws =>
    let inh := ws.filter (fun w => Poly.containsTol tol hyper w)
    if inh.isEmpty then .indeterminate else .witness inh
  | _ => .indeterminate

/-- `phase_one` -/
def phaseOne {σ : Type} (O : Oracles σ α) (s : σ) (node : Nat) (parentState : NState α) (poly : Aff α) :
    NState α × σ :=
  match parentState with
  | .witness ws =>
    match O.mirror s node poly ws 8 with
    | (some pts, s') => (.witness pts, s')
    | (none, s') => (.indeterminate, s')
  | _ => (.indeterminate, s)

/-- `phase_two` -/
def phaseTwo {σ : Type} (tol : α) (O : Oracles σ α) (s : σ) (node : Nat) (poly : Aff α) (n : Nat) :
    NState α × σ :=
  match O.lp s poly (zeros n) with
  | (.optimal sol, s1) =>
    if Poly.containsTol tol poly sol then (.witness [sol], s1)
    else
      match O.mirror s1 node poly [sol] 20 with
      | (some (p :: _), s2) => if Poly.containsTol tol poly p then (.witness [p], s2) else (.indeterminate, s2)
      | (_, s2) => (.indeterminate, s2)
  | (.infeasible, s1) => (.infeasible, s1)
  | (.unbounded, s1) => (.feasible, s1)
  | (.error, s1) => (.indeterminate, s1)

/-- the three phases for one node -/
def decideNode {σ : Type} (tol : α) (O : Oracles σ α) (s : σ) (node : Nat) (parentState : NState α)
    (path : List (Aff α)) (hyper : Aff α) (n : Nat) : NState α × σ :=
  let poly := Poly.intersectionN n (path ++ [hyper])
  match phaseInh tol parentState hyper with
  | .indeterminate =>
    match phaseOne O s node parentState poly with
    | (.indeterminate, s1) => phaseTwo tol O s1 node poly n
    | r => r
  | st => (st, s)

/-- result of sweeping the children of one node -/
structure KidsRes (σ α : Type) where
  kids : PKids α
  st : σ
  newInf : List Nat          -- labels of children that were found infeasible in this sweep
  lastFresh : Bool           -- the last existing child was `Indeterminate` on entry (`forward_if_redundant` runs when
                             -- that child is *visited*, right after the phases, before its sub-tree is swept)

/-- `forward_if_redundant` condition for a binary node: both children exist, one is marked infeasible and the other
    is not (feasible or still undecided: the sibling's region is empty, so the decision is redundant either way);
    returns the label of the surviving child -/
def forwardLabel? : PKids α → Option Nat
  | .cons (some a) (.cons (some b) .nil) =>
    if !a.val.state.isInfeasible && b.val.state.isInfeasible then some 0
    else if a.val.state.isInfeasible && !b.val.state.isInfeasible then some 1
    else none
  | _ => none

/-- deferred removal: drop the listed children in order, but never the last child of the node -/
def removeLabels : PKids α → List Nat → PKids α
  | ks, [] => ks
  | ks, l :: ls => if ks.count > 1 then removeLabels (ks.set l none) ls else removeLabels ks ls

mutual
/-- sweep below node `p`, whose own (final) state is `st`; `isRoot` disables the splice of `forward_if_redundant` -/
def elimNode {σ : Type} (tol : α) (O : Oracles σ α) (n : Nat) (isRoot : Bool) (path : List (Aff α))
    (st : NState α) : PT α → σ → PT α × σ
  | .node i c ks, s =>
    let c' : Content α := ⟨c.aff, st⟩
    let r := elimKids tol O n path c.aff st ks 0 s
    match (if r.lastFresh then forwardLabel? r.kids else none) with
    | some l =>
      if isRoot then
        -- the infeasible sibling is removed, the splice itself is refused (`RootNode`)
        (.node i c' (r.kids.set (1 - l) none), r.st)
      else
        match r.kids.get? l with
        | some ch => (ch, r.st)
        | none => (.node i c' r.kids, r.st)
    | none => (.node i c' (removeLabels r.kids r.newInf), r.st)
def elimKids {σ : Type} (tol : α) (O : Oracles σ α) (n : Nat) (path : List (Aff α))
    (paff : Aff α) (pst : NState α) : PKids α → Nat → σ → KidsRes σ α
  | .nil, _, s => ⟨.nil, s, [], false⟩
  | .cons none r, l, s =>
    let r' := elimKids tol O n path paff pst r (l+1) s
    ⟨.cons none r'.kids, r'.st, r'.newInf, r'.lastFresh⟩
  | .cons (some ch) r, l, s =>
    let hyper := halfspace paff l
    match ch.val.state with
    | .infeasible =>
      -- cached: skipped, not removed
      let r' := elimKids tol O n path paff pst r (l+1) s
      ⟨.cons (some ch) r'.kids, r'.st, r'.newInf, if r.count = 0 then false else r'.lastFresh⟩
    | .indeterminate =>
      let d := decideNode tol O s ch.idx pst path hyper n
      if d.1.isInfeasible then
        let r' := elimKids tol O n path paff pst r (l+1) d.2
        ⟨.cons (some (.node ch.idx ⟨ch.val.aff, d.1⟩ ch.kids)) r'.kids, r'.st, l :: r'.newInf,
         if r.count = 0 then true else r'.lastFresh⟩
      else
        let sub := elimNode tol O n false (path ++ [hyper]) d.1 ch d.2
        let r' := elimKids tol O n path paff pst r (l+1) sub.2
        ⟨.cons (some sub.1) r'.kids, r'.st, r'.newInf, if r.count = 0 then true else r'.lastFresh⟩
    | cached =>
      -- cached feasible: descend
      let sub := elimNode tol O n false (path ++ [hyper]) cached ch s
      let r' := elimKids tol O n path paff pst r (l+1) sub.2
      ⟨.cons (some sub.1) r'.kids, r'.st, r'.newInf, if r.count = 0 then false else r'.lastFresh⟩
end

/-- `infeasible_elimination` -/
def infeasibleElimination {σ : Type} (tol : α) (O : Oracles σ α) (n : Nat) (t : PT α) (s : σ) : PT α × σ :=
  elimNode tol O n true [] t.val.state t s

end AV
