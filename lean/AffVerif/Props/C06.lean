import Mathlib.Data.List.Perm.Subperm
import AffVerif.Proofs.ElimNoSingle
import AffVerif.Proofs.ElimTerminals
import AffVerif.Proofs.Effective
import AffVerif.Props.C05
/-!
# C06 — infeasible-path elimination is effective and idempotent

* Idempotence. `C06_settled_fixpoint`: on a tree without undecided nodes the sweep changes nothing and asks the oracles
  nothing (any oracles, any branching factor, partial trees included). `C06_sweep_settles`: with oracles that always
  reach a verdict (`Decisive`: the solver does not fail and a solver point that fails `contains` can be repaired) the
  swept tree has no undecided node. `C06_idempotent`: hence a second run returns the same tree and solves no LP,
  whatever oracles it is given.
* `C06_no_single_branch` — for *every* behaviour of the solver and of the heuristics (fix D15: a redundant decision is
  forwarded also when its surviving child stayed undecided): on a total tree whose sibling pairs are both fresh or both
  cached feasible (a fresh composition; not every swept tree) no decision below the root is left with a single branch, except
  above a branch that is itself marked infeasible, i.e. when the solver declared both closed half-regions of a feasible
  node empty. An exact solver cannot do that (the half-spaces cover the region); on the implementation it is what
  "empty by more than the solver's tolerance" allows, and the judge decides it per case with exact certificates.
* `C06_swept_caches` — the swept tree has no undecided node and carries sound caches (`CacheOK`, C05).
* `C06_effective` — the first clause of the property, under hypotheses on the solver that the judge validates per call:
  `Decisive`, `Unbounded` answers for non-empty sets only (`UnboundedNonempty`), a repair heuristic that returns points
  of the polytope it was asked for (`MirrorSound`, `MirrorNonempty`). Then every node below the root of the swept tree
  is marked infeasible or has a point within the containment tolerance of all its path conditions, and so on below it
  (`PT.Effective`); a node marked infeasible that is still there is the last child of its decision. The input tree may
  carry caches (`CacheOK`, `PT.StSound StNE`: witness lists non-empty, `Feasible` marks on non-empty regions): any fresh
  tree, the result of an earlier sweep (`C06_effective_caches_kept`) or of any history (`C06_effective_history`).
* Terminal count (last sentence of the property), for every solver that is right about "infeasible":
  `C06_reached_terminal_kept` (forwarding shortens paths, it never changes where they end), `C06_terminals_sublist` (no
  terminal is created, for any oracles at all), `C06_terminal_count_bounds`: `#terminals(result) ≤ #terminals(original)`
  and, for inputs that reach pairwise different terminals of the original (one interior point per full-dimensional
  activation region: `C09_interior_routed`, `C09_terminal_interiors_disjoint`), `#inputs ≤ #terminals(result)`. That a
  surviving terminal has a non-empty closed region is the witness clause of `C06_swept_caches`.
-/
set_option linter.unusedSectionVars false
namespace AV
variable {α : Type} [Field α] [LinearOrder α] [IsStrictOrderedRing α]

theorem C06_settled_fixpoint {σ : Type} (tol : α) (O : Oracles σ α) (n : Nat) (t : PT α) (s : σ)
    (h : PT.SettledBelow t) : infeasibleElimination tol O n t s = (t, s) := by
  unfold infeasibleElimination
  rw [(elim_settled_both tol O n).1 t true [] t.val.state s h]
  cases t with
  | node i c ks => rfl

theorem C06_sweep_settles {σ : Type} (tol : α) (O : Oracles σ α) (hd : Decisive tol O) (n : Nat) (t : PT α) (s : σ) :
    PT.SettledBelow (infeasibleElimination tol O n t s).1 :=
  ((settled_elim_both tol O hd n).1 t true [] t.val.state s).1

theorem C06_idempotent {σ σ' : Type} (tol : α) (O : Oracles σ α) (hd : Decisive tol O) (O' : Oracles σ' α) (n : Nat)
    (t : PT α) (s : σ) (s' : σ') :
    infeasibleElimination tol O' n (infeasibleElimination tol O n t s).1 s' =
      ((infeasibleElimination tol O n t s).1, s') :=
  C06_settled_fixpoint tol O' n _ s' (C06_sweep_settles tol O hd n t s)

theorem C06_no_single_branch {σ : Type} (tol : α) (O : Oracles σ α) (n : Nat) (t : PT α) (s : σ)
    (hu : PT.TotalUniform t) : PKids.NoSingle (infeasibleElimination tol O n t s).1.kids :=
  ((noSingle_elim_both tol O n).1 t hu true [] t.val.state s).1

/-- below the root the same holds one level up: a swept sub-tree is replaced by its only branch -/
theorem C06_no_single_branch_below {σ : Type} (tol : α) (O : Oracles σ α) (n : Nat)
    (path : List (Aff α)) (st : NState α) (t : PT α) (s : σ) (hu : PT.TotalUniform t) :
    PKids.OneInf (elimNode tol O n false path st t s).1.kids :=
  ((noSingle_elim_both tol O n).1 t hu false path st s).2 rfl

theorem C06_swept_caches {σ : Type} (tol : α) (O : Oracles σ α) (hd : Decisive tol O) (hlp : InfeasibleSound O.lp)
    (hm : MirrorSound tol O.mirror) (n m : Nat) (t : PT α) (s : σ) (h : CacheOK tol n m t) :
    PT.SettledBelow (infeasibleElimination tol O n t s).1 ∧ CacheOK tol n m (infeasibleElimination tol O n t s).1 :=
  ⟨C06_sweep_settles tol O hd n t s, C05_elim tol O hlp hm n m t s h⟩

/-- so sweeps can be chained; in particular the `assert!` of `phase_one` never fires on a swept tree -/
theorem C06_effective_caches_kept {σ : Type} (tol : α) (O : Oracles σ α) (hmn : MirrorNonempty O.mirror)
    (hub : UnboundedNonempty O.lp) (n m : Nat) (t : PT α) (s : σ) (ht : PT.Shaped 2 n m t)
    (hne : PT.StSound StNE [] t) : PT.StSound StNE [] (infeasibleElimination tol O n t s).1 :=
  PT.stSound_infeasibleElimination StNE stNE_pred.toFwd tol O n
    (fun _ _ _ _ _ _ hd _ => hd.stNE hmn hub) t s
    (PT.elimOK_of_shaped t n m ht) hne

theorem C06_effective {σ : Type} (tol : α) (htol : 0 ≤ tol) (O : Oracles σ α) (hd : Decisive tol O)
    (hlp : InfeasibleSound O.lp) (hm : MirrorSound tol O.mirror) (hmn : MirrorNonempty O.mirror)
    (hub : UnboundedNonempty O.lp) (n m : Nat) (t : PT α) (s : σ) (h : CacheOK tol n m t)
    (hne : PT.StSound StNE [] t) :
    PT.Effective tol [] (infeasibleElimination tol O n t s).1 := by
  have hw := (C05_elim tol O hlp hm n m t s h).2.2.1
  have h2 := C06_effective_caches_kept tol O hmn hub n m t s h.1 hne
  exact PT.effective_of tol htol _ [] ((PT.witSound_iff tol [] _).1 hw) h2 (C06_sweep_settles tol O hd n t s)

theorem C06_effective_fresh (t : PT α) (hf : PT.Fresh t) : PT.StSound StNE [] t :=
  PT.stSound_of_fresh StNE stNE_indeterminate t [] hf

theorem C06_effective_compose (S : Schema α) (f g : PT α) (c : Nat) (h : PT.StSound StNE [] f) :
    PT.StSound StNE [] (PT.composeS S f g c).1 :=
  PT.stSound_composeS StNE stNE_indeterminate S f g c [] h

theorem C06_effective_compose_prune {σ : Type} (S : Schema α) (ex : Explore σ α) (n : Nat) (f g : PT α) (s : σ)
    (c : Nat) (h : PT.StSound StNE [] f) : PT.StSound StNE [] (PT.composeP S ex n [] f g s c).1 :=
  PT.stSound_composeP StNE stNE_indeterminate S ex n [] f g s c h

theorem C06_effective_apply_func (t : PT α) (a : Aff α) (h : PT.StSound StNE [] t) :
    PT.StSound StNE [] (PT.applyFunc t a) :=
  PT.stSound_mapTerminals StNE _ t [] h

theorem C06_effective_reduce (t : PT α) (h : PT.StSound StNE [] t) : PT.StSound StNE [] (PT.reduce t) :=
  PT.stSound_reduce StNE stNE_pred t [] h

theorem C06_effective_plant (t : PT α) (idx : Nat) (pts : List (List α)) (h : PT.StSound StNE [] t) :
    PT.StSound StNE [] (PT.plant t idx pts) :=
  PT.stSound_plant StNE stNE_plant pts [] t idx h

/-- a history step as in C05 (`CStep`), where the oracles of a sweep also satisfy the two extra contracts -/
inductive EStep (tol : α) (n : Nat) : Nat → PT α → Nat → PT α → Prop where
  | applyFunc (m : Nat) (t : PT α) (a : Aff α) (ha : a.WF) (hm : a.indim = m) :
      EStep tol n m t a.outdim (PT.applyFunc t a)
  | scalar (m : Nat) (t : PT α) (φ : Aff α → Aff α)
      (hφ : ∀ a : Aff α, a.WF → a.indim = n → a.outdim = m → (φ a).WF ∧ (φ a).indim = n ∧ (φ a).outdim = m) :
      EStep tol n m t m (PT.mapTerminals φ t)
  | compose (m p : Nat) (t g : PT α) (c : Nat) (hg : PT.Shaped 2 m p g) :
      EStep tol n m t p (PT.composeS Schema.compose t g c).1
  | composePrune {σ : Type} (m p : Nat) (t g : PT α) (ex : Explore σ α) (s : σ) (c : Nat) (hg : PT.Shaped 2 m p g) :
      EStep tol n m t p (PT.composeP Schema.compose ex n [] t g s c).1
  | arith {σ : Type} (m : Nat) (t g : PT α) (op : ArithOp) (ex : Explore σ α) (s : σ) (c : Nat)
      (hg : PT.Shaped 2 n m g) : EStep tol n m t m (PT.composeP (Schema.arith op.onAff) ex n [] t g s c).1
  | elim {σ : Type} (m : Nat) (t : PT α) (O : Oracles σ α) (s : σ) (hlp : InfeasibleSound O.lp)
      (hmi : MirrorSound tol O.mirror) (hmn : MirrorNonempty O.mirror) (hub : UnboundedNonempty O.lp) :
      EStep tol n m t m (infeasibleElimination tol O n t s).1
  | reduce (m : Nat) (t : PT α) : EStep tol n m t m (PT.reduce t)
  | plant (m : Nat) (t : PT α) (idx : Nat) (pts : List (List α))
      (hp : ∀ q ∈ PT.hitPaths t idx [], ∀ w ∈ pts, InPathTol tol q w) : EStep tol n m t m (PT.plant t idx pts)

theorem EStep.toCStep (tol : α) (n m m' : Nat) (t t' : PT α) (st : EStep tol n m t m' t') : CStep tol n m t m' t' := by
  cases st with
  | applyFunc _ _ a ha hm => exact .applyFunc _ _ a ha hm
  | scalar _ _ φ hφ => exact .scalar _ _ φ hφ
  | compose _ _ _ g c hg => exact .compose _ _ _ g c hg
  | composePrune _ _ _ g ex s c hg => exact .composePrune _ _ _ g ex s c hg
  | arith _ _ g op ex s c hg => exact .arith _ _ g op ex s c hg
  | elim _ _ O s hlp hmi _ _ => exact .elim _ _ O s hlp hmi
  | reduce => exact .reduce _ _
  | plant _ _ idx pts hp => exact .plant _ _ idx pts hp

theorem C06_effective_step (tol : α) (n m m' : Nat) (t t' : PT α) (h : CacheOK tol n m t)
    (hne : PT.StSound StNE [] t) (st : EStep tol n m t m' t') : CacheOK tol n m' t' ∧ PT.StSound StNE [] t' := by
  refine ⟨C05_step tol n m m' t t' h (EStep.toCStep tol n m m' t t' st), ?_⟩
  cases st with
  | applyFunc _ _ a ha hm => exact C06_effective_apply_func t a hne
  | scalar _ _ φ hφ => exact PT.stSound_mapTerminals StNE φ t [] hne
  | compose _ _ _ g c hg => exact C06_effective_compose _ t g c hne
  | composePrune _ _ _ g ex s c hg => exact C06_effective_compose_prune _ ex n t g s c hne
  | arith _ _ g op ex s c hg => exact C06_effective_compose_prune _ ex n t g s c hne
  | elim _ _ O s hlp hmi hmn hub => exact C06_effective_caches_kept tol O hmn hub n m t s h.1 hne
  | reduce => exact C06_effective_reduce t hne
  | plant _ _ idx pts hp => exact C06_effective_plant t idx pts hne

inductive ESteps (tol : α) (n : Nat) : Nat → PT α → Nat → PT α → Prop where
  | nil (m : Nat) (t : PT α) : ESteps tol n m t m t
  | cons (m m' m'' : Nat) (t t' t'' : PT α) : EStep tol n m t m' t' → ESteps tol n m' t' m'' t'' → ESteps tol n m t m'' t''

/-- every history over the eight step kinds of C05, in any order and number, leads to a tree on which the next sweep is
    effective (with a decisive solver): the compose / eliminate pipelines of the property and everything around them -/
theorem C06_effective_history {σ : Type} (tol : α) (htol : 0 ≤ tol) (n m m' : Nat) (t t' : PT α)
    (h : CacheOK tol n m t) (hne : PT.StSound StNE [] t) (hs : ESteps tol n m t m' t')
    (O : Oracles σ α) (hd : Decisive tol O) (hlp : InfeasibleSound O.lp) (hm : MirrorSound tol O.mirror)
    (hmn : MirrorNonempty O.mirror) (hub : UnboundedNonempty O.lp) (s : σ) :
    PT.Effective tol [] (infeasibleElimination tol O n t' s).1 := by
  induction hs with
  | nil m t => exact C06_effective tol htol O hd hlp hm hmn hub n m t s h hne
  | cons m m' m'' t t' t'' st _ ih =>
    obtain ⟨h', hne'⟩ := C06_effective_step tol n m m' t t' h hne st
    exact ih h' hne'

theorem C06_reached_terminal_kept {σ : Type} (tol : α) (O : Oracles σ α) (hlp : InfeasibleSound O.lp)
    (n m : Nat) (t : PT α) (s : σ) (x : List α) (ht : PT.Shaped 2 n m t) (hc : PT.InfSound [] t) :
    (PT.findTerminal (infeasibleElimination tol O n t s).1 x).map (·.1) = (PT.findTerminal t x).map (·.1) ∧
    PT.leafAt (infeasibleElimination tol O n t s).1 x = PT.leafAt t x := by
  have hok := PT.elimOK_of_shaped t n m ht
  refine ⟨?_, ?_⟩
  · rw [← PT.obs_idx, ← PT.obs_idx]
    exact PT.obs_infeasibleElimination _ tol O hlp n t s x hok hc
  · rw [← PT.obs_aff, ← PT.obs_aff]
    exact PT.obs_infeasibleElimination _ tol O hlp n t s x hok hc

theorem C06_terminals_sublist {σ : Type} (tol : α) (O : Oracles σ α) (n : Nat) (t : PT α) (s : σ) :
    (PT.terminals (infeasibleElimination tol O n t s).1).Sublist (PT.terminals t) :=
  (PT.terminals_elim_both tol O n).1 t true [] t.val.state s

theorem C06_terminal_count_bounds {σ : Type} (tol : α) (O : Oracles σ α) (hlp : InfeasibleSound O.lp)
    (n m : Nat) (t : PT α) (s : σ) (ht : PT.Shaped 2 n m t) (hc : PT.InfSound [] t) (xs : List (List α))
    (hdef : ∀ x ∈ xs, (PT.findTerminal t x).isSome)
    (hdist : (xs.map (fun x => (PT.findTerminal t x).map (·.1))).Nodup) :
    xs.length ≤ ITree.numTerminals (infeasibleElimination tol O n t s).1 ∧
    ITree.numTerminals (infeasibleElimination tol O n t s).1 ≤ ITree.numTerminals t := by
  rw [← PT.terminals_length, ← PT.terminals_length]
  refine ⟨?_, (C06_terminals_sublist tol O n t s).length_le⟩
  -- compare index lists: the distinct indices reached by `xs` all occur among the indices of the result's terminals
  rw [← List.length_map (f := fun p : Nat × Aff α => some p.1),
    ← List.length_map (f := fun x => (PT.findTerminal t x).map (·.1)) (as := xs)]
  refine (List.subperm_of_subset hdist fun o ho => ?_).length_le
  obtain ⟨x, hx, rfl⟩ := List.mem_map.1 ho
  obtain ⟨r, hf⟩ := Option.isSome_iff_exists.1 (hdef x hx)
  -- the swept tree sends `x` to a terminal with the same index
  have hk : PT.obs (fun i _ => i) (infeasibleElimination tol O n t s).1 x = some r.1 := by
    rw [PT.obs_idx, (C06_reached_terminal_kept tol O hlp n m t s x ht hc).1, hf]; rfl
  obtain ⟨p, hp, hpe⟩ := PT.obs_mem _ _ x r.1 hk
  exact List.mem_map.2 ⟨p, hp, by rw [hf]; exact congrArg some hpe.symm⟩

/-- non-vacuity of the hypotheses of `C06_terminal_count_bounds`: the two inputs 3 and −2 reach different terminals of
    the ReLU tree, so its swept version has exactly two terminals whatever the solver does -/
example : (∀ x ∈ [[(3 : Rat)], [-2]], (PT.findTerminal exRelu x).isSome) ∧
    ([[(3 : Rat)], [-2]].map (fun x => (PT.findTerminal exRelu x).map (·.1))).Nodup := by decide +kernel

/-- the contract `MirrorNonempty` holds for the model of the heuristic (it answers `Some` with the candidates that
    passed the test, of which there is at least one) -/
theorem C06_model_mirror_nonempty {σ : Type} (eps fac : α) (heps : 0 ≤ eps) (norms : Aff α → List (Option α))
    (hn : ∀ p : Aff α, (norms p).length = p.rows.length ∧ ∀ o ∈ norms p, ∀ k, o = some k → 0 < k) :
    MirrorNonempty (σ := σ) (modelMirror eps fac norms) := by
  intro s node poly ws k pts s' h
  obtain ⟨j, hm⟩ := modelMirror_some eps fac norms s s' node poly ws pts k h
  exact (C05_mirror_points_sound eps fac heps poly (norms poly) (hn poly).1 (hn poly).2 ws k pts j hm).1

/-- non-vacuity of the tree hypotheses of `C06_effective` -/
example (tol : Rat) : CacheOK tol 1 1 exRelu ∧ PT.StSound StNE [] exRelu :=
  have hf : PT.Fresh exRelu := ⟨rfl, ⟨rfl, trivial⟩, ⟨rfl, trivial⟩, trivial⟩
  ⟨C05_fresh tol 1 1 exRelu exRelu_shaped hf, C06_effective_fresh exRelu hf⟩

/-- non-vacuity of the solver hypotheses of `C06_effective`: the exact decision procedure ("unbounded" for a non-empty
    set — the objective of the feasibility question is constant —, "infeasible" for an empty one; classical, not
    computable) together with a heuristic that never helps satisfies all five of them -/
example {σ : Type} (tol : α) :
    let O : Oracles σ α := ⟨fun s p _ => (@ite _ (∃ x, Poly.Mem p x) (Classical.propDecidable _) LPAnswer.unbounded
      LPAnswer.infeasible, s), fun s _ _ _ _ => (none, s)⟩
    Decisive tol O ∧ InfeasibleSound O.lp ∧ UnboundedNonempty O.lp ∧ MirrorSound tol O.mirror ∧
      MirrorNonempty O.mirror := by
  intro O
  have em := fun p : Aff α => Classical.em (∃ x, Poly.Mem p x)
  refine ⟨decisive_of_lp_decides tol O fun s p c => (em p).imp (fun h => if_pos h) (fun h => if_neg h),
    fun s p c h => (em p).elim (fun hx => ?_) id, fun s p c h => (em p).elim id (fun hx => ?_),
    fun s node poly ws k pts s' h => (nomatch h), fun s node poly ws k pts s' h => (nomatch h)⟩
  · exact nomatch (if_pos hx : (O.lp s p c).1 = _).symm.trans h
  · exact nomatch (if_neg hx : (O.lp s p c).1 = _).symm.trans h

/-- non-vacuity of `Decisive`: a backend that always answers (here: "unbounded") with a heuristic that never helps -/
example {σ : Type} (tol : α) : Decisive tol (⟨fun s _ _ => (.unbounded, s), fun s _ _ _ _ => (none, s)⟩ : Oracles σ α) :=
  decisive_of_lp_decides tol _ (fun _ _ _ => Or.inl rfl)

end AV
