import AffVerif.Proofs.BfsLemmas
import AffVerif.Proofs.TreeLemmas
import AffVerif.Proofs.Welford
/-!
# C13 — traversals and tree metrics are exact for every shape and start node

`Dfs`, `DfsE`, `BfsM` are the stack and queue machines of `src/tree/iter.rs` (with `skip_subtree` = "pop what the last
`next` pushed and forget it", callable any number of times after any item); `refDfsT`, `refEdgeK`, `refBfs` are plain
recursions (`refBfs` level by level, with fuel): pre-order resp. level order, children by ascending label, sub-trees
of the items marked in the schedule omitted. Any branching factor, any start node (`start` is the sub-tree the
traversal is started at), no bound on size. The run theorems (`C13_dfs_run`, `C13_edge_run`, `C13_bfs_run` and the
`_pre_skip` forms) rest on the core-only `Proofs/IterLemmas` and `Proofs/BfsLemmas`. The metric theorems (`C13_depth`,
`C13_num_terminals`, `C13_depth_stats_sample`, `C13_path_to_node`) say that what the code computes from the
traversals, the arena flags and the parent links is the structural height, terminal count, terminal depths and root
path; they use `Proofs/TreeLemmas`.
-/
namespace AV
variable {β : Type}

theorem dfs_run_start (sk : Nat → Nat) (start : ITree β) (lp lb ub : Nat) :
    (Dfs.run sk start.size ⟨[(0, start, 0)], lp, lb, ub⟩ 0).map (·.1) = (refDfsT sk 0 start 0 0).1 :=
  (dfs_run_eq_ref sk start.size [(0, start, 0)] lp lb ub 0 (Nat.le_of_eq (Nat.add_zero _))).trans (List.append_nil _)

/-- `skip_subtree` before the first item skips nothing (nothing has been returned yet) -/
theorem C13_dfs_run_pre_skip (sk : Nat → Nat) (pre : Nat) (whole start : ITree β) :
    (Dfs.run sk start.size (Dfs.skipN pre (Dfs.new whole start)) 0).map (·.1) = (refDfsT sk 0 start 0 0).1 := by
  cases pre with
  | zero => exact dfs_run_start sk start _ _ _
  | succ n => rw [Dfs.skipN_succ]; exact dfs_run_start sk start _ _ _

/-- every item with its depth, index and remaining-sibling counter -/
theorem C13_dfs_run (sk : Nat → Nat) (whole start : ITree β) :
    (Dfs.run sk start.size (Dfs.new whole start) 0).map (·.1) = (refDfsT sk 0 start 0 0).1 :=
  C13_dfs_run_pre_skip sk 0 whole start

theorem C13_edge_run (sk : Nat → Nat) (whole start : ITree β) :
    (DfsE.run sk start.size (DfsE.new whole start) 0).map (·.1) = (refEdgeK sk start.idx 0 start.kids 0).1 :=
  (dfsE_run_eq_ref sk start.size _ _ _ _ 0 (Nat.le_of_succ_le (Nat.le_of_eq (stackSizeE_children 1 start)))).trans
    (congrArg Prod.fst (refStackE_entries sk 1 start.idx start.kids 0 0))

theorem refDfs_indices_both :
    (∀ (t : ITree β) (d r k : Nat), (refDfsT (fun _ => 0) d t r k).1.map (·.idx) = t.indices) ∧
    (∀ (ks : IKids β) (d k : Nat), (refDfsK (fun _ => 0) d ks k).1.map (·.idx) = ks.indices) := by
  refine ITree.ind ?_ (fun _ _ => rfl) ?_ ?_
  · intro i v ks ih d r k; rw [refDfsT, if_neg (fun h => h rfl), List.map_cons, ih, ITree.indices]
  · intro r ih d k; rw [refDfsK, IKids.indices, ih]
  · intro t r iht ihr d k; rw [refDfsK, IKids.indices, List.map_append, iht, ihr]

theorem refDfsT_indices (t : ITree β) (d r k : Nat) :
    (refDfsT (fun _ => 0) d t r k).1.map (·.idx) = t.indices := refDfs_indices_both.1 t d r k
theorem refDfsK_indices (ks : IKids β) (d k : Nat) :
    (refDfsK (fun _ => 0) d ks k).1.map (·.idx) = ks.indices := refDfs_indices_both.2 ks d k

/-- without skips every node of the sub-tree is visited exactly once, in pre-order (`indices` lists each node once) -/
theorem C13_dfs_visits_subtree (whole start : ITree β) :
    ((Dfs.run (fun _ => 0) start.size (Dfs.new whole start) 0).map (·.1)).map (·.idx) = start.indices := by
  rw [C13_dfs_run, refDfsT_indices]

/-- `num_nodes(start)` (= number of items of the traversal) is the size of the sub-tree -/
theorem C13_num_nodes (whole start : ITree β) :
    (Dfs.run (fun _ => 0) start.size (Dfs.new whole start) 0).length = start.size := by
  have := congrArg List.length (C13_dfs_visits_subtree whole start)
  rwa [List.length_map, List.length_map, ITree.indices_eq_entries, List.length_map, ← ITree.size_eq_entries] at this

theorem refStack_noskip_length (S : Stack β) (k : Nat) : (refStack (fun _ => 0) S k).1.length = stackSize S := by
  induction S generalizing k with
  | nil => rfl
  | cons e S ih =>
    rw [refStack, List.length_append, ih, stackSize, ← List.length_map (f := (·.idx)), refDfsT_indices,
      ITree.indices_eq_entries, List.length_map, ← ITree.size_eq_entries]

/-- `size_hint` of `DfsPre`: at every point of every run — after any `next`, after any `skip_subtree` — the bounds
    bracket the number of items still to come if `skip_subtree` is not called again (`stackSize`, see
    `refStack_noskip_length`) -/
theorem C13_size_hint_dfs (whole start : ITree β) (hsub : start.size ≤ whole.size)
    (hroot : start.idx = whole.idx → start.size = whole.size) :
    (Dfs.new whole start).Inv ∧
    (∀ (s s' : Dfs β) (it : Item), Dfs.Inv s → s.next = some (it, s') → Dfs.Inv s') ∧
    (∀ s : Dfs β, Dfs.Inv s → Dfs.Inv s.skip) ∧
    (∀ s : Dfs β, Dfs.Inv s → s.lb ≤ (refStack (fun _ => 0) s.stack 0).1.length ∧
                              (refStack (fun _ => 0) s.stack 0).1.length ≤ s.ub) :=
  ⟨Dfs.inv_new whole start hsub hroot, Dfs.inv_next, Dfs.inv_skip,
   fun s h => by rw [refStack_noskip_length]; exact ⟨h.1, h.2.1⟩⟩

theorem bfs_run_start (sk : Nat → Nat) (start : ITree β) (lp lb ub : Nat) :
    (BfsM.run sk start.size ⟨[(0, start, 0)], lp, lb, ub⟩ 0).map (·.1) = start.refBfs sk :=
  bfs_run_eq_ref sk (start.size + 1) 0 [(start, 0)] start.size 0 _ rfl (Nat.le_of_eq (Nat.add_zero _))
    (Nat.le_of_eq (congrArg (· + 1) (Nat.add_zero _)))

theorem C13_bfs_run_pre_skip (sk : Nat → Nat) (pre : Nat) (whole start : ITree β) :
    (BfsM.run sk start.size (BfsM.skipN pre (BfsM.new whole start)) 0).map (·.1) = start.refBfs sk := by
  cases pre with
  | zero => exact bfs_run_start sk start _ _ _
  | succ n => rw [BfsM.skipN_succ]; exact bfs_run_start sk start _ _ _

theorem C13_bfs_run (sk : Nat → Nat) (whole start : ITree β) :
    (BfsM.run sk start.size (BfsM.new whole start) 0).map (·.1) = start.refBfs sk :=
  C13_bfs_run_pre_skip sk 0 whole start

/-- `size_hint` of the breadth-first and of the edge traversal: the bounds bracket the number of items still to come
    (sum of the sizes of the pending sub-trees) in every reachable state, skips included -/
theorem C13_size_hint_bfs_edge (whole start : ITree β) (hsub : start.size ≤ whole.size)
    (hroot : start.idx = whole.idx → start.size = whole.size) :
    ((BfsM.new whole start).Inv ∧
      (∀ (s s' : BfsM β) (it : Item), BfsM.Inv s → s.next = some (it, s') → BfsM.Inv s') ∧
      (∀ s : BfsM β, BfsM.Inv s → BfsM.Inv s.skip)) ∧
    ((DfsE.new whole start).Inv ∧
      (∀ (s s' : DfsE β) (it : EItem), DfsE.Inv s → s.next = some (it, s') → DfsE.Inv s') ∧
      (∀ s : DfsE β, DfsE.Inv s → DfsE.Inv s.skip)) :=
  ⟨⟨BfsM.inv_new whole start hsub hroot, BfsM.inv_next, BfsM.inv_skip⟩,
   ⟨DfsE.inv_new whole start hsub hroot, DfsE.inv_next, DfsE.inv_skip⟩⟩

/-! non-vacuity: a five-node tree, traversal from the root with a skip after the second item -/
def exTree : ITree Nat :=
  .node 0 0 (.cons (some (.node 1 0 (.cons (some (.node 3 0 (.cons none (.cons none .nil))))
                                   (.cons (some (.node 4 0 (.cons none (.cons none .nil)))) .nil))))
            (.cons (some (.node 2 0 (.cons none (.cons none .nil)))) .nil))

example : (Dfs.run (fun k => if k = 1 then 2 else 0) exTree.size (Dfs.new exTree exTree) 0).map (·.1.idx) = [0, 1, 2] := by
  decide

example : (BfsM.run (fun k => if k = 1 then 1 else 0) exTree.size (BfsM.new exTree exTree) 0).map (·.1.idx) = [0, 1, 2] := by
  decide

theorem foldr_max_append (a b : List Nat) : (a ++ b).foldr max 0 = max (a.foldr max 0) (b.foldr max 0) := by
  induction a with
  | nil => exact (Nat.zero_max _).symm
  | cons x a ih => rw [List.cons_append, List.foldr_cons, List.foldr_cons, ih, Nat.max_assoc]

theorem IKids.height_of_count_zero (ks : IKids β) (h : ks.count = 0) : ks.height = 0 :=
  IKids.allNone_ind (Q := fun ks => ks.height = 0) rfl (fun _ h => h) ks ((IKids.allNone_iff_count ks).mpr h)

theorem refDfs_maxDepth_both :
    (∀ (t : ITree β) (d r k : Nat), ((refDfsT (fun _ => 0) d t r k).1.map (·.depth)).foldr max 0 = d + t.height) ∧
    (∀ (ks : IKids β) (d k : Nat), ((refDfsK (fun _ => 0) (d+1) ks k).1.map (·.depth)).foldr max 0 =
      if ks.count = 0 then 0 else d + ks.height) := by
  refine ITree.ind ?_ (fun _ _ => rfl) ?_ ?_
  · intro i v ks ih d r k
    rw [refDfsT, if_neg (fun h => h rfl), List.map_cons, List.foldr_cons, ih, ITree.height]
    split
    · rename_i hc; rw [IKids.height_of_count_zero ks hc]; exact Nat.max_zero _
    · exact Nat.max_eq_right (Nat.le_add_right _ _)
  · intro r ih d k; rw [refDfsK, IKids.count, IKids.height, ih]
  · intro t r iht ihr d k
    rw [refDfsK, List.map_append, foldr_max_append, iht, ihr, IKids.height, IKids.count, if_neg (Nat.succ_ne_zero _)]
    rw [Nat.add_assoc, Nat.add_comm 1]
    split
    · rename_i hc; rw [IKids.height_of_count_zero r hc, Nat.max_zero, Nat.max_zero]
    · exact Nat.add_max_add_left ..

theorem refDfsK_maxDepth (d : Nat) (ks : IKids β) (k : Nat) :
    ((refDfsK (fun _ => 0) (d+1) ks k).1.map (·.depth)).foldr max 0 = if ks.count = 0 then 0 else d + ks.height :=
  refDfs_maxDepth_both.2 ks d k

/-- `depth()`: the largest depth reported by the depth-first traversal is the height of the tree -/
theorem C13_depth (t : ITree β) :
    ((refDfsT (fun _ => 0) 0 t 0 0).1.map (·.depth)).foldr max 0 = t.height := by
  rw [refDfs_maxDepth_both.1]; exact Nat.zero_add _

theorem arena_leaf_count_both :
    (∀ (t : ITree β) (p : Option Nat), ((t.toArenaAux p).filter (·.isleaf)).length = t.numTerminals) ∧
    (∀ (ks : IKids β) (p : Nat), ((ks.toArenaAux p).filter (·.isleaf)).length = ks.numTerminals) := by
  refine ITree.ind ?_ (fun _ => rfl) ?_ ?_
  · intro i v ks ih p
    rw [ITree.toArenaAux, ITree.numTerminals, List.filter_cons]
    cases h : ks.allNone with
    | true => rw [if_pos rfl, if_pos rfl, ks.toArenaAux_allNone i h]; rfl
    | false => rw [if_neg Bool.false_ne_true, if_neg Bool.false_ne_true]; exact ih i
  · intro r ih p; rw [IKids.toArenaAux, IKids.numTerminals, ih]
  · intro t r iht ihr p
    rw [IKids.toArenaAux, IKids.numTerminals, List.filter_append, List.length_append, iht, ihr]

theorem IKids.arena_leaf_count (ks : IKids β) (p : Nat) :
    ((ks.toArenaAux p).filter (·.isleaf)).length = ks.numTerminals := arena_leaf_count_both.2 ks p

/-- `num_terminals()` (the number of arena nodes flagged as leaves) is the number of terminals of the tree -/
theorem C13_num_terminals (t : ITree β) : (t.toArena.filter (·.isleaf)).length = t.numTerminals :=
  arena_leaf_count_both.1 t none

theorem IKids.pathTo?_of_child (ks : IKids β) (p l0 : Nat) (hnd : ks.indices.Nodup) :
    ∀ sq ∈ ks.subs p, ∀ l c, sq.1.kids.get? l = some c → ∀ pre, ks.pathTo? p l0 sq.1.idx = some pre →
      ks.pathTo? p l0 c.idx = some (pre ++ [(sq.1.idx, l)]) := by
  rw [← IKids.locs_sub ks p l0, List.forall_mem_map]
  intro e he l c hc pre hpre
  cases (ks.at_loc p l0 hnd e he).2.1.symm.trans hpre
  exact (ks.at_loc p l0 hnd _ (ks.locs_down p l0 [] e he l c hc)).2.1

theorem ITree.pathUp_locs (t : ITree β) (hnd : t.indices.Nodup) (fuel : Nat) :
    ∀ e ∈ t.locs [], e.2.length ≤ fuel → (ITree.pathUp t fuel e.1.idx).reverse = e.2 := by
  induction fuel with
  | zero => intro e _ h; rw [List.length_eq_zero_iff.mp (Nat.le_zero.mp h)]; rfl
  | succ f ih =>
    intro e he hlen
    have hpar := (t.at_loc hnd e he).2.2
    rcases t.locs_up [] e he with rfl | ⟨e', he', k, _, h2⟩
    · rw [ITree.pathUp, hpar]; rfl
    · rw [h2, List.getLast?_concat] at hpar
      rw [h2, List.length_append] at hlen
      rw [ITree.pathUp, hpar, List.reverse_cons, ih e' he' (Nat.le_of_succ_le_succ hlen), h2]

theorem pathTo?_length_both (i : Nat) :
    (∀ (t : ITree β) (path : List (Nat × Nat)), t.pathTo? i = some path → path.length < t.size) ∧
    (∀ (ks : IKids β) (p l : Nat) (path : List (Nat × Nat)), ks.pathTo? p l i = some path → path.length ≤ ks.size) := by
  refine ITree.ind ?_ (fun _ _ _ h => nomatch h) ?_ ?_
  · intro j v ks ih path h
    rw [ITree.pathTo?] at h
    rw [ITree.size, Nat.add_comm]
    split at h
    · cases h; exact Nat.succ_pos _
    · exact Nat.lt_succ_of_le (ih j 0 path h)
  · intro r ih p l path h; exact ih p (l+1) path h
  · intro t r iht ihr p l path h
    rw [IKids.pathTo?_cons_some] at h
    rw [IKids.size]
    cases ht : t.pathTo? i with
    | some sub => rw [ht] at h; cases h; exact Nat.le_add_right_of_le (iht sub ht)
    | none => rw [ht] at h; exact Nat.le_add_left_of_le (ihr p (l+1) path h)

theorem IKids.pathTo?_length (ks : IKids β) (p l i : Nat) (path : List (Nat × Nat)) (h : ks.pathTo? p l i = some path) :
    path.length ≤ ks.size := (pathTo?_length_both i).2 ks p l path h

/-- `path_to_node(i)` for every node `i` of a tree with distinct indices: climbing the parent links (the model with fuel `size`,
    the code's loop has none) and reversing gives the `(node, label)` pairs from the root down to `i` -/
theorem C13_path_to_node (t : ITree β) (hnd : t.indices.Nodup) (i : Nat) (hi : i ∈ t.indices) :
    ∃ path, t.pathTo? i = some path ∧ (ITree.pathUp t t.size i).reverse = path := by
  rw [← ITree.locs_idx] at hi
  obtain ⟨e, he, rfl⟩ := List.mem_map.mp hi
  have hp := (t.at_loc hnd e he).2.1
  exact ⟨e.2, hp, ITree.pathUp_locs t hnd t.size e he (Nat.le_of_lt ((pathTo?_length_both _).1 t _ hp))⟩

/-- `is_leaf(index)`: the code reads the flag stored in the node, which `toArena` sets to "all child slots empty" -/
def ITree.isLeafIdx (whole : ITree β) (i : Nat) : Bool :=
  match whole.find? i with
  | some s => s.kids.allNone
  | none => false

theorem refDfsK_allNone (sk : Nat → Nat) (d : Nat) (ks : IKids β) (k : Nat) (h : ks.allNone = true) :
    refDfsK sk d ks k = ([], k) :=
  IKids.allNone_ind (Q := fun ks => refDfsK sk d ks k = ([], k)) rfl (fun _ h => h) ks h

theorem IKids.leafDepths_allNone (ks : IKids β) (d : Nat) (h : ks.allNone = true) : ks.leafDepths d = [] :=
  IKids.allNone_ind (Q := fun ks => ks.leafDepths d = []) rfl (fun _ h => h) ks h

/-- `whole` finds every sub-tree listed in `t` / `ks` under its own index: `is_leaf` of a reported index then is the
    test of that sub-tree's slots -/
theorem refDfs_leafDepths_both (whole : ITree β) :
    (∀ (t : ITree β) (p : Option Nat) (d r k : Nat), (∀ sq ∈ t.subs p, whole.find? sq.1.idx = some sq.1) →
      (((refDfsT (fun _ => 0) d t r k).1.filter (fun it => whole.isLeafIdx it.idx)).map (·.depth)) = t.leafDepths d) ∧
    (∀ (ks : IKids β) (p d k : Nat), (∀ sq ∈ ks.subs p, whole.find? sq.1.idx = some sq.1) →
      (((refDfsK (fun _ => 0) d ks k).1.filter (fun it => whole.isLeafIdx it.idx)).map (·.depth)) = ks.leafDepths d) := by
  refine ITree.ind ?_ (fun _ _ _ _ => rfl) ?_ ?_
  · intro i v ks ih p d r k H
    have hhead : whole.isLeafIdx i = ks.allNone := by
      rw [ITree.isLeafIdx, show whole.find? i = _ from H _ (ITree.subs_head (.node i v ks) p)]; rfl
    rw [refDfsT, if_neg (fun h => h rfl), List.filter_cons, hhead, ITree.leafDepths]
    cases hall : ks.allNone with
    | true => rw [if_pos rfl, if_pos rfl, refDfsK_allNone _ _ ks _ hall]; rfl
    | false =>
      rw [if_neg Bool.false_ne_true, if_neg Bool.false_ne_true]
      exact ih i (d+1) (k+1) (fun sq hsq => H sq (List.mem_cons_of_mem _ hsq))
  · intro r ih p d k H; exact ih p d k H
  · intro t r iht ihr p d k H
    rw [refDfsK, IKids.leafDepths, List.filter_append, List.map_append,
      iht (some p) d r.count k (fun sq hsq => H sq (List.mem_append_left _ hsq)),
      ihr p d _ (fun sq hsq => H sq (List.mem_append_right _ hsq))]

theorem refDfsK_leafDepths (whole : ITree β) (d : Nat) (ks : IKids β) (p : Nat) (k : Nat)
    (H : ∀ sq ∈ ks.subs p, whole.find? sq.1.idx = some sq.1) :
    (((refDfsK (fun _ => 0) d ks k).1.filter (fun it => whole.isLeafIdx it.idx)).map (·.depth)) = ks.leafDepths d :=
  (refDfs_leafDepths_both whole).2 ks p d k H

/-- `depth_stats()` aggregates, over the items of the depth-first traversal whose node is a leaf (`is_leaf(index)`), the
    reported depths: on a tree with pairwise distinct indices these are the depths of the terminals, in pre-order -/
theorem C13_depth_stats_sample (t : ITree β) (hnd : t.indices.Nodup) :
    (((refDfsT (fun _ => 0) 0 t 0 0).1.filter (fun it => t.isLeafIdx it.idx)).map (·.depth)) = t.leafDepths 0 :=
  (refDfs_leafDepths_both t).1 t none 0 0 0 (ITree.find?_of_sub t hnd)

/-- `depth_stats()`, mean and variance: the running update of `average::Variance` (Welford; `Model/Stats.lean`) applied
    to the terminal depths in traversal order yields the sample count, the textbook mean `Σd / n` and the textbook sum
    of squared deviations `Σ (d − mean)²` (the reported sample variance is that sum over `n − 1`) — over every ordered
    field, for every non-empty list of samples -/
theorem C13_depth_stats_welford {α : Type} [Field α] [LinearOrder α] [IsStrictOrderedRing α] (ds : List α)
    (hne : ds ≠ []) :
    (Welford.run ds).n = (ds.length : α) ∧
    (Welford.run ds).mean = ds.sum / (ds.length : α) ∧
    (Welford.run ds).sum2 = (ds.map (fun d => (d - ds.sum / (ds.length : α)) * (d - ds.sum / (ds.length : α)))).sum := by
  obtain ⟨hn, hm, hs⟩ := Welford.inv_run ds
  have hlen : (ds.length : α) ≠ 0 := Nat.cast_ne_zero.mpr fun h => hne (List.length_eq_zero_iff.1 h)
  have hmean : (Welford.run ds).mean = ds.sum / (ds.length : α) := by
    rw [eq_div_iff hlen, mul_comm, ← hn]; exact hm
  refine ⟨hn, hmean, ?_⟩
  rw [← hmean, sum_sq_dev, ← hs, ← hm, hn]
  ring

/-- the sample variance; for a single terminal the statement gives `0` (Lean's `0 / 0`) where the code returns NaN -/
theorem C13_depth_stats_variance {α : Type} [Field α] [LinearOrder α] [IsStrictOrderedRing α] (ds : List α)
    (hne : ds ≠ []) :
    (Welford.meanVar ds).1 = ds.sum / (ds.length : α) ∧
    (Welford.meanVar ds).2 =
      (ds.map (fun d => (d - ds.sum / (ds.length : α)) * (d - ds.sum / (ds.length : α)))).sum / ((ds.length : α) - 1) := by
  obtain ⟨h1, h2, h3⟩ := C13_depth_stats_welford ds hne
  simp only [Welford.meanVar]
  exact ⟨h2, by rw [h3, h1]⟩

/-- non-vacuity / sanity: depths 1, 2, 2, 3 -/
example : Welford.meanVar [(1 : Rat), 2, 2, 3] = (2, 2 / 3) := by decide +kernel

end AV
