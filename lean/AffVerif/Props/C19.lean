import AffVerif.Model.Format
import AffVerif.Props.C12
import Mathlib.Data.List.Induction
import Mathlib.Data.Rat.Floor
/-!
# C19 — the textual forms show what is stored

The rendering functions of the model (`Model/Format.lean`) produce the strings through a token layer: a rendered
linear combination is a list of `LTok` (term = coefficient next to the index of its variable, or the ellipsis), a
rendered matrix a list of `RTok` (row or vertical ellipsis), the DOT export a list of node statements followed by a list
of edge statements. The judge compares the *strings* with the implementation's output byte for byte; the theorems
below are about the token layer and the number rounding, for every matrix, option set and tree:

* `C19_round_error`, `C19_round_tie_even`, `C19_fixed_error` — the printed decimal is the stored value rounded to the
  printed precision (error ≤ ½ unit of the last place, ties to even);
* `C19_sort_perm`, `C19_sort_sorted` — sorting coefficients permutes (index, coefficient) pairs, by descending
  magnitude;
* `C19_elems_own_index`, `C19_term_is_own_coefficient` — every pair the renderer walks over, hence every printed term,
  pairs a coefficient with the index of the variable it multiplies, also after sorting;
* `C19_lincomb_shown`, `C19_lincomb_no_silent_drop`, `C19_rows_shown`, `C19_rows_no_silent_drop` — exactly the
  positions outside the skip range are printed, in order, and whenever something is omitted an ellipsis token is there;
* `C19_dot_node_statements` — the node statements are one per arena record (the length of a `map`);
  `C19_dot_edges` — for the arena of any tree with distinct indices the DOT export has one edge statement per non-root
  node, carrying the label of the slot of its parent that holds it.
-/
namespace AV.Fmt

theorem roundHalfEven_cases (x : Rat) :
    (roundHalfEven x = x.floor ∧ x - x.floor ≤ 1/2) ∨ (roundHalfEven x = x.floor + 1 ∧ 1/2 ≤ x - x.floor) := by
  by_cases h1 : x - x.floor > 1/2
  · exact Or.inr ⟨if_pos h1, h1.le⟩
  · by_cases h2 : x - x.floor < 1/2
    · exact Or.inl ⟨(if_neg h1).trans (if_pos h2), h2.le⟩
    · -- a tie: either neighbour is at distance one half
      by_cases h3 : (x.floor % 2 == 0) = true
      · exact Or.inl ⟨(if_neg h1).trans ((if_neg h2).trans (if_pos h3)), not_lt.mp h1⟩
      · exact Or.inr ⟨(if_neg h1).trans ((if_neg h2).trans (if_neg h3)), not_lt.mp h2⟩

theorem C19_round_error (x : Rat) : |((roundHalfEven x : Int) : Rat) - x| ≤ 1/2 := by
  rcases roundHalfEven_cases x with ⟨h, hf⟩ | ⟨h, hf⟩ <;> rw [h]
  · -- rounded down: the error is the fractional part
    rw [abs_sub_comm, abs_of_nonneg (sub_nonneg.mpr (Rat.floor_le x))]
    exact hf
  · -- rounded up: the error is one minus the fractional part
    have h2 := Rat.lt_floor_add_one x
    rw [Int.cast_add, Int.cast_one] at h2 ⊢
    rw [abs_of_nonneg (sub_nonneg.mpr h2.le)]
    calc (x.floor : Rat) + 1 - x = 1 - (x - x.floor) := by ring
      _ ≤ 1 - 1/2 := sub_le_sub_left hf 1
      _ = 1/2 := by norm_num

theorem C19_round_tie_even (x : Rat) (h : x - (x.floor : Rat) = 1/2) : roundHalfEven x % 2 = 0 := by
  unfold roundHalfEven
  simp only [h, lt_irrefl, if_false, beq_iff_eq]
  split <;> omega

/-- `{:.p}`: the printed number `r / 10^p` differs from the stored magnitude by at most half a unit of the last place -/
theorem C19_fixed_error (q : Rat) (p : Nat) :
    |((roundHalfEven (q * (10 : Rat) ^ p) : Int) : Rat) / (10 : Rat) ^ p - q| ≤ 1 / (2 * (10 : Rat) ^ p) := by
  have hpos : (0 : Rat) < (10 : Rat) ^ p := pow_pos (by norm_num) p
  -- the error of `r / s` against `q` is the error of `r` against `q * s`, divided by `s`
  rw [← mul_div_cancel_right₀ q hpos.ne', ← sub_div, abs_div, abs_of_pos hpos, mul_div_cancel_right₀ q hpos.ne',
    ← div_div]
  exact div_le_div_of_nonneg_right (C19_round_error _) hpos.le

theorem insertDesc_perm (e : Nat × SNum) (l : List (Nat × SNum)) : (insertDesc e l).Perm (e :: l) := by
  induction l with
  | nil => exact .refl _
  | cons h t ih =>
    rw [insertDesc]
    split
    · exact .refl _
    · exact (ih.cons h).trans (.swap e h t)

theorem sortDesc_concat (l : List (Nat × SNum)) (e : Nat × SNum) : sortDesc (l ++ [e]) = insertDesc e (sortDesc l) :=
  List.foldl_concat ..

theorem C19_sort_perm (l : List (Nat × SNum)) : (sortDesc l).Perm l := by
  induction l using List.reverseRecOn with
  | nil => exact .refl _
  | append_singleton l e ih =>
    rw [sortDesc_concat]
    exact (insertDesc_perm e _).trans ((ih.cons e).trans (List.perm_append_singleton e l).symm)

def DescSorted (l : List (Nat × SNum)) : Prop := l.Pairwise (fun a b => a.2.mag ≥ b.2.mag)

theorem insertDesc_sorted (e : Nat × SNum) (l : List (Nat × SNum)) (h : DescSorted l) : DescSorted (insertDesc e l) := by
  induction l with
  | nil => exact List.pairwise_singleton _ _
  | cons x t ih =>
    obtain ⟨hx, ht⟩ := List.pairwise_cons.mp h
    rw [insertDesc]
    split
    · rename_i hgt
      refine List.pairwise_cons.mpr ⟨fun b hb => ?_, h⟩
      rcases List.mem_cons.mp hb with rfl | hb
      · exact hgt.le
      · exact (hx b hb).trans hgt.le
    · rename_i hle
      refine List.pairwise_cons.mpr ⟨fun b hb => ?_, ih ht⟩
      rcases List.mem_cons.mp ((insertDesc_perm e t).mem_iff.mp hb) with rfl | hb
      · exact not_lt.mp hle
      · exact hx b hb

theorem C19_sort_sorted (l : List (Nat × SNum)) : DescSorted (sortDesc l) :=
  List.foldlRecOn l _ List.Pairwise.nil fun acc h e _ => insertDesc_sorted e acc h

/-- the (index, coefficient) pairs `write_lincomb` walks over: in index order, or sorted by magnitude -/
def elemsOf (o : Opts) (coeffs : List SNum) : List (Nat × SNum) :=
  let elems := (List.range coeffs.length).zip coeffs
  if o.sortCoefficients != 0 && o.sortCoefficients ≤ coeffs.length then sortDesc elems else elems

theorem writeLincomb_eq (o : Opts) (p : Nat) (coeffs : List SNum) :
    writeLincomb o p coeffs = String.join ((lincombToks o (elemsOf o coeffs) 0 true).map (LTok.render p)) := rfl

theorem mem_range_zip (coeffs : List SNum) (e : Nat × SNum) (h : e ∈ (List.range coeffs.length).zip coeffs) :
    coeffs[e.1]? = some e.2 := by
  obtain ⟨k, hk⟩ := List.mem_iff_getElem?.mp h
  obtain ⟨h1, h2⟩ := List.getElem?_zip_eq_some.mp hk
  obtain ⟨_, h1⟩ := List.getElem?_eq_some_iff.mp h1
  rw [List.getElem_range] at h1
  exact h1 ▸ h2

theorem C19_elems_own_index (o : Opts) (coeffs : List SNum) : ∀ e ∈ elemsOf o coeffs, coeffs[e.1]? = some e.2 := by
  intro e he
  unfold elemsOf at he
  split at he
  · exact mem_range_zip coeffs e ((C19_sort_perm _).mem_iff.mp he)
  · exact mem_range_zip coeffs e he

def termsOf : List LTok → List (Nat × SNum)
  | [] => []
  | .term i c _ :: r => (i, c) :: termsOf r
  | .ell :: r => termsOf r

/-- the elements at positions outside the skip range, in order -/
def shownFrom (o : Opts) : List (Nat × SNum) → Nat → List (Nat × SNum)
  | [], _ => []
  | e :: rest, no => if rangeContains o.skipAxes no then shownFrom o rest (no+1) else e :: shownFrom o rest (no+1)

theorem shownFrom_sublist (o : Opts) : ∀ (l : List (Nat × SNum)) (no : Nat), (shownFrom o l no).Sublist l
  | [], _ => .slnil
  | e :: l, no => by
    rw [shownFrom]
    by_cases hs : rangeContains o.skipAxes no = true
    · rw [if_pos hs]; exact (shownFrom_sublist o l _).cons e
    · rw [if_neg hs]; exact (shownFrom_sublist o l _).cons_cons e

theorem C19_lincomb_shown (o : Opts) (elems : List (Nat × SNum)) (no : Nat) (fs : Bool) :
    termsOf (lincombToks o elems no fs) = shownFrom o elems no := by
  induction elems generalizing no fs with
  | nil => rfl
  | cons e rest ih =>
    rw [lincombToks, shownFrom]
    by_cases hs : rangeContains o.skipAxes no = true
    · rw [if_pos hs, if_pos hs]
      cases fs <;> exact ih _ _
    · rw [if_neg hs, if_neg hs]
      exact congrArg _ (ih _ _)

theorem C19_term_is_own_coefficient (o : Opts) (coeffs : List SNum) :
    ∀ e ∈ termsOf (lincombToks o (elemsOf o coeffs) 0 true), coeffs[e.1]? = some e.2 := by
  intro e he
  rw [C19_lincomb_shown] at he
  exact C19_elems_own_index o coeffs e ((shownFrom_sublist o _ 0).subset he)

theorem C19_lincomb_no_silent_drop (o : Opts) (elems : List (Nat × SNum)) (no : Nat)
    (h : shownFrom o elems no ≠ elems) : LTok.ell ∈ lincombToks o elems no true := by
  induction elems generalizing no with
  | nil => exact absurd rfl h
  | cons e rest ih =>
    rw [lincombToks]
    by_cases hs : rangeContains o.skipAxes no = true
    · rw [if_pos hs]
      exact List.mem_cons_self
    · rw [if_neg hs]
      exact List.mem_cons_of_mem _ (ih (no+1) fun he => h ((if_neg hs).trans (congrArg _ he)))

def rowsOfToks : List RTok → List (List SNum × SNum)
  | [] => []
  | .row _ r b _ :: t => (r, b) :: rowsOfToks t
  | .vell :: t => rowsOfToks t

def shownRowsFrom (o : Opts) : List (List SNum × SNum) → Nat → List (List SNum × SNum)
  | [], _ => []
  | e :: rest, no => if rangeContains o.skipRows no then shownRowsFrom o rest (no+1) else e :: shownRowsFrom o rest (no+1)

theorem C19_rows_shown (o : Opts) (total : Nat) (rows : List (List SNum × SNum)) (no : Nat) (fs : Bool) :
    rowsOfToks (rowToks o total rows no fs) = shownRowsFrom o rows no := by
  induction rows generalizing no fs with
  | nil => rfl
  | cons e rest ih =>
    rw [rowToks, shownRowsFrom]
    by_cases hs : rangeContains o.skipRows no = true
    · rw [if_pos hs, if_pos hs]
      cases fs <;> exact ih _ _
    · rw [if_neg hs, if_neg hs]
      exact congrArg _ (ih _ _)

theorem C19_rows_no_silent_drop (o : Opts) (total : Nat) (rows : List (List SNum × SNum)) (no : Nat)
    (h : shownRowsFrom o rows no ≠ rows) : RTok.vell ∈ rowToks o total rows no true := by
  induction rows generalizing no with
  | nil => exact absurd rfl h
  | cons e rest ih =>
    rw [rowToks]
    by_cases hs : rangeContains o.skipRows no = true
    · rw [if_pos hs]
      exact List.mem_cons_self
    · rw [if_neg hs]
      exact List.mem_cons_of_mem _ (ih (no+1) fun he => h ((if_neg hs).trans (congrArg _ he)))

theorem C19_dot_node_statements (nodes : List (ANode SAff)) : (nodes.map dotNodeStmt).length = nodes.length :=
  List.length_map _

end AV.Fmt

namespace AV
open AV.Fmt
variable {β : Type}

theorem C19_dot_edges (t : ITree β) (hnd : t.indices.Nodup) :
    (dotEdges t.toArena).length = t.size - 1 ∧
    ∀ e ∈ dotEdges t.toArena, ∃ pn ∈ t.toArena, pn.idx = e.1 ∧ pn.children[e.2.2]? = some (some e.2.1) := by
  -- the look-up of a parent index finds a record with that index, and that record lists the child
  have hfind : ∀ b ∈ t.toArena, ∀ p, b.parent = some p →
      ∃ pn ∈ t.toArena, t.toArena.find? (fun x => x.idx == p) = some pn ∧ pn.idx = p ∧ some b.idx ∈ pn.children := by
    intro b hb p hp
    obtain ⟨a, ha, hap⟩ := t.arena_parent_mem b hb p hp
    cases hf : t.toArena.find? (fun x => x.idx == p) with
    | none => exact absurd (beq_iff_eq.mpr hap) (List.find?_eq_none.mp hf a ha)
    | some pn =>
      have hpn : pn.idx = p := beq_iff_eq.mp (List.find?_some (p := fun x : ANode β => x.idx == p) hf)
      have hmem := List.mem_of_find?_eq_some hf
      exact ⟨pn, hmem, rfl, hpn, (C12_links_mirror t hnd pn hmem b hb).mp (hpn ▸ hp)⟩
  obtain ⟨r, rest, harena, hroot, _, hrest⟩ := C12_arena_one_root t
  rw [← C12_arena_len t]
  generalize t.toArena = A at *
  subst harena
  constructor
  · -- the root contributes nothing, every other record one edge
    unfold dotEdges
    rw [List.filterMap_cons, hroot]
    refine List.filterMap_length_eq_length.mpr fun b hb => ?_
    obtain ⟨p, hp⟩ := Option.isSome_iff_exists.mp (hrest b hb)
    obtain ⟨pn, _, hf, _, _⟩ := hfind b (List.mem_cons_of_mem _ hb) p hp
    rw [hp]
    simp only [hf, Option.isSome_some]
  · intro e he
    obtain ⟨b, hb, hbe⟩ := List.mem_filterMap.mp he
    cases hp : b.parent with
    | none => rw [hp] at hbe; cases hbe
    | some p =>
      obtain ⟨pn, hpnm, hf, hpi, hch⟩ := hfind b hb p hp
      rw [hp] at hbe
      simp only [hf, Option.some.injEq] at hbe
      subst hbe
      have hlt : pn.children.findIdx (fun c => c == some b.idx) < pn.children.length :=
        List.findIdx_lt_length_of_exists ⟨some b.idx, hch, beq_self_eq_true _⟩
      exact ⟨pn, hpnm, hpi, (List.getElem?_eq_getElem hlt).trans
        (congrArg some (beq_iff_eq.mp (List.findIdx_getElem (w := hlt))))⟩
end AV
