import AffVerif.Proofs.PolyLemmas
import Mathlib.Algebra.Order.BigOperators.Group.List
/-!
# C14 — polytope constructors and transformations are set-exact

Membership theorems over any ordered field, each under the dimension guard the code asserts (`WF` = one bias entry
per row and rows of the stated width, which `from_mats` / ndarray guarantee).
`Poly.Mem p x` is `mat·x ≤ bias` row by row.
-/
set_option linter.unusedSectionVars false
set_option linter.unusedVariables false
namespace AV

section Structure
-- classes as implicit binders: see DESIGN.md §2
variable {α : Type} {_ : Zero α} {_ : One α} {_ : Neg α}

theorem hyperrectangleAux_cons (n i : Nat) (lo hi : Option α) (rest : List (Option α × Option α)) :
    Poly.hyperrectangleAux n i ((lo, hi) :: rest) = Poly.axisRows n i lo hi ++ Poly.hyperrectangleAux n (i+1) rest := rfl

end Structure

variable {α : Type} [Field α] [LinearOrder α] [IsStrictOrderedRing α]

theorem C14_intersection (p q : Aff α) (x : List α) (hp : p.WF) :
    Poly.Mem (Poly.intersection p q) x ↔ Poly.Mem p x ∧ Poly.Mem q x := by
  unfold Poly.intersection
  rw [mem_iff_zip, List.zip_append hp.2.symm, List.forall_mem_append]; rfl

theorem C14_intersection_n (n : Nat) (ps : List (Aff α)) (x : List α) :
    Poly.Mem (Poly.intersectionN n ps) x ↔ ∀ p ∈ ps, Poly.Mem p x :=
  Poly.mem_intersectionN n ps x

theorem C14_translate (p : Aff α) (d x : List α) (hxd : x.length = d.length) :
    Poly.Mem (Poly.translate p d) x ↔ Poly.Mem p (vsub x d) :=
  Poly.mem_of_rows_map _ (Poly.rows_translate p d) fun rb _ => by
    rw [dot_vsub_right _ _ _ hxd, sub_add_eq_sub_sub_swap]

theorem C14_apply_pre (p f : Aff α) (x : List α) (hf : f.WF) (hpf : ∀ r ∈ p.mat, r.length = f.outdim)
    (hx : x.length = f.indim) :
    Poly.Mem (Poly.applyPre p f) x ↔ Poly.Mem p (f.apply x) :=
  Poly.mem_of_rows_map _ (Poly.rows_applyPre p f) fun rb _ => dot_vecMat_sub f rb.1 x rb.2 hf

theorem C14_unbounded_empty (n : Nat) (x : List α) :
    Poly.Mem (Poly.unbounded n : Aff α) x ∧ ¬ Poly.Mem (Poly.empty n : Aff α) x :=
  ⟨Poly.mem_unbounded n x, Poly.not_mem_empty n x⟩

/-- `none` is an infinite end -/
def inInterval (lo hi : Option α) (v : α) : Prop :=
  (match lo with | none => True | some l => l ≤ v) ∧ (match hi with | none => True | some h => v ≤ h)

theorem axisRows_mem (n axis : Nat) (lo hi : Option α) (x : List α) (ha : axis < n) :
    (∀ rb ∈ Poly.axisRows n axis lo hi, dot rb.1 x ≤ rb.2) ↔ inInterval lo hi (x.getD axis 0) := by
  unfold Poly.axisRows
  rw [List.forall_mem_cons, List.forall_mem_singleton]
  have h01 : dot (zeros n) x ≤ (1 : α) := (Poly.mem_singleton _ _ n x).mp (Poly.mem_unbounded n x)
  refine and_congr ?_ ?_
  · cases lo with
    | none => exact iff_true_intro h01
    | some l => simp only [dot_unitVec_lt ha, OF.neg_one_mul, OF.neg_le_neg_iff]
  · cases hi with
    | none => exact iff_true_intro h01
    | some h => simp only [dot_unitVec_lt ha, one_mul]

/-- an infinite end contributes the row `0 ≤ 1` -/
theorem C14_axis_bounds (n axis : Nat) (lo hi : Option α) (x : List α) (ha : axis < n) :
    Poly.Mem (Poly.axisBounds n axis lo hi) x ↔ inInterval lo hi (x.getD axis 0) := by
  unfold Poly.axisBounds
  rw [Poly.mem_ofRows]
  exact axisRows_mem n axis lo hi x ha

theorem hyperrectangleAux_mem (n : Nat) (i : Nat) (ivs : List (Option α × Option α)) (x : List α)
    (hn : i + ivs.length ≤ n) :
    (∀ rb ∈ Poly.hyperrectangleAux n i ivs, dot rb.1 x ≤ rb.2) ↔
    ∀ q ∈ ivs.zipIdx i, inInterval q.1.1 q.1.2 (x.getD q.2 0) := by
  induction ivs generalizing i with
  | nil => exact iff_of_true (List.forall_mem_nil _) (List.forall_mem_nil _)
  | cons iv ivs ih =>
    obtain ⟨lo, hi⟩ := iv
    rw [hyperrectangleAux_cons, List.forall_mem_append, List.zipIdx_cons, List.forall_mem_cons,
      axisRows_mem n i lo hi x (Nat.lt_of_lt_of_le (Nat.lt_add_of_pos_right (Nat.succ_pos _)) hn),
      ih (i + 1) (Nat.add_right_comm i 1 _ ▸ hn)]

theorem C14_hyperrectangle (ivs : List (Option α × Option α)) (x : List α) :
    Poly.Mem (Poly.hyperrectangle ivs) x ↔
    ∀ j (h : j < ivs.length), inInterval (ivs[j]).1 (ivs[j]).2 (x.getD j 0) := by
  unfold Poly.hyperrectangle
  rw [Poly.mem_ofRows, hyperrectangleAux_mem _ 0 ivs x (Nat.zero_add _).le]
  constructor
  · exact fun h j hj => h (ivs[j], j) (List.mk_mem_zipIdx_iff_getElem?.mpr (List.getElem?_eq_getElem hj))
  · rintro h ⟨iv, j⟩ hq
    obtain ⟨hj, rfl⟩ := List.getElem?_eq_some_iff.mp (List.mk_mem_zipIdx_iff_getElem?.mp hq)
    exact h j hj

/-- hence `apply_post(inv, c)` is the image of `P` under `x ↦ inv⁻¹·x + c` whenever `inv` is invertible -/
theorem C14_apply_post (p : Aff α) (n : Nat) (inv : Mat α) (c y : List α)
    (hinv : ∀ r ∈ inv, r.length = n) (hp : ∀ r ∈ p.mat, r.length = inv.length)
    (hy : y.length = n) (hc : c.length = n) :
    Poly.Mem (Poly.applyPost p n inv c) y ↔ Poly.Mem p (matVec inv (vsub y c)) :=
  Poly.mem_of_rows_map _ (Poly.rows_applyPost p n inv c) fun rb hrb => by
    rw [← dot_vecMat n _ inv c hinv, ← dot_vecMat n _ inv (vsub y c) hinv, dot_vsub_right _ _ _ (hy.trans hc.symm),
      sub_add_eq_sub_sub]

theorem eye_length (n : Nat) : (eye n : Mat α).length = n := (List.length_map _).trans List.length_range

theorem C14_hypercube (n : Nat) (r : α) (x : List α) :
    Poly.Mem (Poly.hypercube n r) x ↔ ∀ j < n, -r ≤ x.getD j 0 ∧ x.getD j 0 ≤ r := by
  unfold Poly.hypercube
  rw [Poly.mem_replicate _ _ _ _ (by rw [List.length_append, matNeg, List.length_map, eye_length, Nat.two_mul]),
    List.forall_mem_append, matNeg, eye]
  simp only [List.forall_mem_map, List.mem_range]
  rw [and_comm, ← forall₂_and]
  exact forall₂_congr fun j hj => by rw [dot_vneg_left, dot_unitVec_lt hj, one_mul, ← OF.neg_le_neg_iff, neg_neg]

theorem C14_from_normal (n : Nat) (N P : Mat α) (x : List α) :
    Poly.Mem (Poly.fromNormal n N P) x ↔ ∀ np ∈ N.zip P, dot np.1 np.2 ≤ dot np.1 x := by
  unfold Poly.Mem
  rw [Poly.rows_fromNormal, List.forall_mem_map]
  simp only [dot_vneg_left, OF.neg_le_neg_iff]

theorem C14_distance_raw (p : Aff α) (x : List α) (hp : p.bias.length = p.mat.length) :
    Poly.Mem p x ↔ ∀ d ∈ Poly.distanceRaw p x, 0 ≤ d := by
  rw [Poly.distanceRaw_eq, List.forall_mem_map]
  exact forall₂_congr fun rb _ => OF.sub_nonneg.symm

/-- `distance` divides a raw slack by the (positive) Euclidean norm of its row: the sign is kept -/
theorem C14_distance_sign (d k : α) (hk : 0 < k) : (0 ≤ d / k ↔ 0 ≤ d) ∧ (d / k < 0 ↔ d < 0) ∧ (d / k = 0 ↔ d = 0) :=
  ⟨by rw [le_div_iff₀ hk, zero_mul], by rw [div_lt_iff₀ hk, zero_mul], by rw [div_eq_zero_iff, or_iff_left hk.ne']⟩

theorem dot_simplex_row (n i : Nat) (d : α) (x : List α) :
    dot ((List.range n).map (fun j => if i = j then 1 + d else 1)) x =
      dot (ones n) x + (if i < n then d * x.getD i 0 else 0) := by
  simp only [eq_comm (a := i)]
  rw [dot_range_map_ite, add_sub_cancel_left, dot_unitVec, ones, replicate_eq_range_map]

/-- `nn` and `s` stand for `n` and `√(n+1)` as numbers of the field; the code's `dist` is `−(1 + √(n+1) + n)` -/
theorem C14_simplex (n : Nat) (nn s : α) (x : List α) :
    Poly.Mem (Poly.simplex n nn s) x ↔
      (∀ i < n, dot (ones n) x + (-(1 + s + nn)) * x.getD i 0 ≤ 1) ∧ dot (ones n) x ≤ 1 := by
  unfold Poly.simplex
  refine (Poly.mem_replicate _ 1 (n + 1) n (by rw [List.length_map, List.length_range]) x).trans ?_
  -- rows `i < n` and the last row `i = n`
  rw [List.range_succ, List.map_append, List.forall_mem_append, List.forall_mem_map, List.map_singleton,
    List.forall_mem_singleton, dot_simplex_row, if_neg (lt_irrefl n), add_zero]
  simp only [List.mem_range]
  refine and_congr_left' (forall₂_congr fun i hi => ?_)
  rw [dot_simplex_row, if_pos hi]

theorem C14_cross_polytope (n : Nat) (x : List α) :
    Poly.Mem (Poly.crossPolytope n : Aff α) x ↔ ((List.range n).map (fun j => |x.getD j 0|)).sum ≤ 1 := by
  unfold Poly.crossPolytope
  refine (Poly.mem_replicate _ 1 (2 ^ n) n (by rw [List.length_map, List.length_range]) x).trans ?_
  rw [List.forall_mem_map]
  simp only [List.mem_range, dot_range_map]
  constructor
  · -- the row whose signs are those of `x` (core's `Nat.ofBits` builds its number) gives the 1-norm
    intro h
    refine le_trans (le_of_eq ?_) (h _ (Nat.ofBits_lt_two_pow fun j : Fin n => decide (x.getD j 0 < 0)))
    refine congrArg _ (List.map_congr_left fun j hj => ?_)
    have := Nat.testBit_ofBits_lt (fun j : Fin n => decide (x.getD j 0 < 0)) j (List.mem_range.mp hj)
    rw [Nat.testBit_eq_decide_div_mod_eq, decide_eq_decide] at this
    rw [if_congr this rfl rfl]
    split
    next hneg => rw [abs_of_neg hneg, OF.neg_one_mul]
    next hpos => rw [abs_of_nonneg (not_lt.mp hpos), one_mul]
  · intro h i _
    refine le_trans (List.sum_le_sum fun j _ => ?_) h
    split
    · rw [OF.neg_one_mul]; exact neg_le_abs _
    · rw [one_mul]; exact le_abs_self _

/-- for an orthogonal `R`, `Rᵀ = R⁻¹`: the rotated polytope consists exactly of the images `R x` of the points of `P` -/
theorem C14_rotate (p : Aff α) (R : Mat α) (y : List α) (hp : ∀ r ∈ p.mat, r.length = p.indim)
    (hsq : R.length = p.indim) (hy : y.length = p.indim) :
    Poly.Mem (Poly.rotate p R) y ↔ Poly.Mem p (matVec (transpose p.indim R) y) :=
  have hRt : ∀ r ∈ transpose p.indim R, r.length = p.indim := fun r hr => by
    obtain ⟨j, _, rfl⟩ := List.mem_map.mp hr
    exact (List.length_map _).trans hsq
  Poly.mem_of_rows_map _ (Poly.rows_applyPost p _ _ _) fun rb _ => by
    rw [← dot_vecMat _ _ _ (zeros _) hRt, dot_zeros_right, zero_add, dot_vecMat _ _ _ y hRt]

end AV
