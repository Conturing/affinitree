import AffVerif.Model.LP
import AffVerif.Proofs.MirrorSound
import AffVerif.Proofs.PruneSound
/-!
# C15 — constraint clean-up keeps exactly the same point set

Proved: `remove_rows` / `remove_zero_rows` / `remove_tautologies` return a sub-sequence of the original rows (or the
canonical empty / whole-space polytope) and `remove_zero_rows`, `remove_tautologies` keep the point set.
Also: `normalize` (division of rows by positive numbers; the square roots enter as parameters) and
`remove_redundant_row_constraints`: with an exact solver and threshold 0 the point set is kept; for every threshold the
result is a sub-sequence of the rows (or the canonical empty polytope), loses no point, and keeps no row that the other
remaining rows imply by that margin.
`remove_duplicate_rows` is proved for the exact comparison of the normalised rows ("positive multiple of an earlier
row") and for every comparison that only identifies equal half-spaces; the code's `relative_eq` is not such a
comparison below `f64::EPSILON` (known finding F-C15-duplicate-rows-below-epsilon).
Open: that no point is gained under the `f64::EPSILON` slack of `remove_redundant_row_constraints` (decided by exact
set equality per system).
-/
set_option linter.unusedSectionVars false
set_option linter.unusedVariables false
namespace AV

section Structure
-- classes as implicit binders: see DESIGN.md §2
variable {α : Type} {_ : Zero α} {_ : One α} {_ : Add α} {_ : Mul α} {_ : Neg α} {_ : LE α} {_ : DecidableLE α}

/-- what a run of the loop from (`idxs`, `red`) that returns a polytope `r` has done; `Inv` is any property of the list of
    dropped rows that a drop on the solver's word keeps. Either the solver called some sub-system infeasible and `r` is
    the canonical empty polytope, or `r` is `p` without `red' ⊇ red`, and about every index of `idxs` that stays the
    solver answered, over the rows not dropped at that time (`red₀ ⊆ red'`), "unbounded" or an optimum beyond the margin -/
theorem removeRedundantLoop_run {σ : Type} (eps : α) (lp : LPOracle σ α) (p r : Aff α) (Inv : List Nat → Prop)
    (drop : ∀ i red s xs, (lp s (p.removeRows (i :: red)) (vneg (p.mat.getD i []))).1 = .optimal xs →
      dot (p.mat.getD i []) xs ≤ p.bias.getD i 0 + eps → Inv red → Inv (i :: red)) :
    ∀ idxs red s, Inv red → (removeRedundantLoop eps lp p idxs red s).1 = .ok r →
      (r = Poly.empty p.indim ∧
        ∃ i red' s', Inv red' ∧ (lp s' (p.removeRows (i :: red')) (vneg (p.mat.getD i []))).1 = .infeasible) ∨
      ∃ red', r = p.removeRows red' ∧ Inv red' ∧ red ⊆ red' ∧ ∀ i ∈ idxs, i ∉ red' →
        ∃ red₀ s' a, red₀ ⊆ red' ∧ (lp s' (p.removeRows (i :: red₀)) (vneg (p.mat.getD i []))).1 = a ∧
          (a = .unbounded ∨ ∃ xs, a = .optimal xs ∧ ¬ dot (p.mat.getD i []) xs ≤ p.bias.getD i 0 + eps) := by
  intro idxs
  induction idxs with
  | nil => exact fun red s h0 h => Or.inr ⟨red, (RedResult.ok.inj h).symm, h0, List.Subset.refl red, nofun⟩
  | cons i rest ih =>
    intro red s h0 h
    unfold removeRedundantLoop at h
    dsimp only at h
    rcases hlp : lp s (p.removeRows (i :: red)) (vneg (p.mat.getD i [])) with ⟨a, s'⟩
    have ha : (lp s (p.removeRows (i :: red)) (vneg (p.mat.getD i []))).1 = a := by rw [hlp]
    rw [hlp] at h
    cases a with
    | error => cases h
    | infeasible => exact Or.inl ⟨(RedResult.ok.inj h).symm, i, red, s, h0, ha⟩
    | unbounded =>
      exact (ih red s' h0 h).imp_right fun ⟨red', hr, hI, hsub, hkept⟩ =>
        ⟨red', hr, hI, hsub, List.forall_mem_cons.2 ⟨fun _ => ⟨red, s, _, hsub, ha, Or.inl rfl⟩, hkept⟩⟩
    | optimal xs =>
      dsimp only at h
      split at h
      next hle => exact (ih (i :: red) s' (drop i red s xs ha hle h0) h).imp_right fun ⟨red', hr, hI, hsub, hkept⟩ =>
          ⟨red', hr, hI, List.subset_of_cons_subset hsub,
            List.forall_mem_cons.2 ⟨fun hir => absurd (hsub List.mem_cons_self) hir, hkept⟩⟩
      next hnle => exact (ih red s' h0 h).imp_right fun ⟨red', hr, hI, hsub, hkept⟩ =>
          ⟨red', hr, hI, hsub, List.forall_mem_cons.2 ⟨fun _ => ⟨red, s, _, hsub, ha, Or.inr ⟨xs, rfl, hnle⟩⟩, hkept⟩⟩

theorem dedupAux_cons (eqv : List α × α → List α × α → Bool) (seen : List (List α × α)) (r : List α × α)
    (rs : List (List α × α)) :
    Poly.dedupAux eqv seen (r :: rs) =
      if seen.any (eqv r) then Poly.dedupAux eqv (seen ++ [r]) rs else r :: Poly.dedupAux eqv (seen ++ [r]) rs := rfl

theorem dedupAux_sublist (eqv : List α × α → List α × α → Bool) (seen rs : List (List α × α)) :
    (Poly.dedupAux eqv seen rs).Sublist rs := by
  induction rs generalizing seen with
  | nil => exact List.Sublist.refl _
  | cons r rs ih =>
    rw [dedupAux_cons]
    split
    · exact (ih _).cons r
    · exact (ih _).cons_cons r

end Structure

variable {α : Type} [Field α] [LinearOrder α] [IsStrictOrderedRing α]

theorem C15_remove_rows_subseq (p : Aff α) (idxs : List Nat) : (p.removeRows idxs).rows.Sublist p.rows := by
  rw [Aff.rows_removeRows]
  have := (List.filter_sublist (l := p.rows.zipIdx) (p := fun q => !idxs.contains q.2)).map Prod.fst
  rwa [List.zipIdx_map_fst] at this

theorem C15_remove_zero_rows_subseq (p : Aff α) : p.removeZeroRows.rows.Sublist p.rows := by
  unfold Aff.removeZeroRows
  rw [Aff.rows_ofRows]
  exact List.filter_sublist

/-- the rows dropped are `0·x ≤ 0` -/
theorem C15_remove_zero_rows (p : Aff α) (x : List α) : Poly.Mem p.removeZeroRows x ↔ Poly.Mem p x := by
  unfold Aff.removeZeroRows
  rw [Poly.mem_ofRows]
  refine forall_mem_filter_iff fun rb _ hk => ?_
  rw [Bool.not_eq_false', Bool.and_eq_true, OF.beq_iff_eq] at hk
  rw [dot_isZeroVec rb.1 x hk.1, hk.2]

/-- an infeasible zero row yields the canonical empty polytope, dropping every row the canonical whole-space polytope -/
theorem C15_remove_tautologies (p : Aff α) (x : List α) : Poly.Mem (Poly.removeTautologies p) x ↔ Poly.Mem p x := by
  unfold Poly.removeTautologies
  split
  · rename_i hany
    -- some row is `0·x ≤ b` with `b < 0`: nothing satisfies p
    simp only [List.any_eq_true, Bool.and_eq_true, Bool.not_eq_true', decide_eq_false_iff_not] at hany
    obtain ⟨rb, hrb, hz, hneg⟩ := hany
    refine iff_of_false (Poly.not_mem_empty _ x) fun h => hneg ?_
    rw [← dot_isZeroVec rb.1 x hz]; exact h rb hrb
  · rename_i hnone
    -- the dropped rows are `0·x ≤ b` with `0 ≤ b`
    refine Iff.trans ?_ (forall_mem_filter_iff (k := fun rb => !isZeroVec rb.1) fun rb hrb hk => ?_)
    · dsimp only
      split
      · rename_i hemp
        rw [List.isEmpty_iff.mp hemp]
        exact iff_of_true (Poly.mem_unbounded _ x) (List.forall_mem_nil _)
      · exact Poly.mem_ofRows ..
    · rw [Bool.not_eq_false'] at hk
      rw [dot_isZeroVec rb.1 x hk]
      exact not_not.mp fun hn => hnone (List.any_eq_true.mpr ⟨rb, hrb, by simp [hk, hn]⟩)

theorem C15_remove_tautologies_subseq (p : Aff α) :
    Poly.removeTautologies p = Poly.empty p.indim ∨ Poly.removeTautologies p = Poly.unbounded p.indim ∨
    (Poly.removeTautologies p).rows.Sublist p.rows := by
  unfold Poly.removeTautologies
  split
  · exact Or.inl rfl
  · simp only
    split
    · exact Or.inr (Or.inl rfl)
    · right; right
      rw [Aff.rows_ofRows]
      exact List.filter_sublist

/-- `normalize`: `s` holds the row norms, `none` for a row of norm ≤ EPSILON, which is left as it is -/
theorem C15_normalize (p : Aff α) (s : List (Option α)) (hlen : s.length = p.rows.length)
    (hpos : ∀ o ∈ s, ∀ k, o = some k → 0 < k) (x : List α) : Poly.Mem (p.scaleRows s) x ↔ Poly.Mem p x :=
  mem_scaleRows p s hlen hpos x

theorem Poly.Mem.removeRows {p : Aff α} {x : List α} (h : Poly.Mem p x) (a : List Nat) : Poly.Mem (p.removeRows a) x :=
  h.of_subset (C15_remove_rows_subseq p a).subset

/-- the solver's optimum is a true optimum: the hypothesis under which dropping rows is exact -/
def OptimalSound {σ : Type} (lp : LPOracle σ α) : Prop :=
  ∀ s q c x, (lp s q c).1 = LPAnswer.optimal x → ∀ z, Poly.Mem q z → dot c x ≤ dot c z

/-- exact solver and threshold 0. The implementation adds `f64::EPSILON` to the threshold: for that the judge decides
    set equality per system with exact certificates -/
theorem C15_remove_redundant_exact {σ : Type} (lp : LPOracle σ α) (hopt : OptimalSound lp)
    (hinf : InfeasibleSound lp) (p : Aff α) (hwf : p.WF) (s : σ) (r : Aff α)
    (h : (Poly.removeRedundant 0 lp p s).1 = .ok r) : ∀ x, Poly.Mem r x ↔ Poly.Mem p x := by
  -- kept by every drop: the rows not dropped so far still imply all of `p`
  refine (removeRedundantLoop_run 0 lp p r (fun red => ∀ x, Poly.Mem (p.removeRows red) x → Poly.Mem p x)
    ?_ _ [] s ?_ h).elim ?_ ?_
  · intro i red s xs hlp hle hinv x hx
    refine hinv x ?_
    -- row `i` is implied by the other rows: the solver's optimum bounds it
    rw [Poly.mem_removeRows] at hx ⊢
    intro j hj rb hrb
    by_cases hji : j = i
    · have hmax := hopt s _ _ xs hlp x ((Poly.mem_removeRows ..).mpr hx)
      rw [dot_vneg_left, dot_vneg_left, OF.neg_le_neg_iff] at hmax
      rw [Aff.rows_getElem? p j rb hrb, hji]
      exact hmax.trans (hle.trans_eq (add_zero _))
    · exact hx j (fun hm => (List.mem_cons.mp hm).elim hji hj) rb hrb
  · intro x hx rb hrb
    obtain ⟨j, hjr⟩ := List.mem_iff_getElem?.mp hrb
    exact (Poly.mem_removeRows ..).mp hx j List.not_mem_nil rb hjr
  · rintro ⟨rfl, i, red', s', _, hi⟩ x
    exact iff_of_false (Poly.not_mem_empty _ x) fun hm => hinf s' _ _ hi ⟨x, hm.removeRows _⟩
  · rintro ⟨red', rfl, hinv, _⟩ x
    exact ⟨hinv x, fun hm => hm.removeRows red'⟩

def WitnessIn {σ : Type} (lp : LPOracle σ α) : Prop :=
  ∀ s q c x, (lp s q c).1 = LPAnswer.optimal x → Poly.Mem q x

def UnboundedSound {σ : Type} (lp : LPOracle σ α) : Prop :=
  ∀ s q c, (lp s q c).1 = LPAnswer.unbounded → ∀ M : α, ∃ x, Poly.Mem q x ∧ dot c x < M

/-- the code's threshold is `eps = f64::EPSILON`; here any `eps` and any solver that is right about `infeasible` -/
theorem C15_remove_redundant_superset {σ : Type} (eps : α) (lp : LPOracle σ α) (hinf : InfeasibleSound lp)
    (p : Aff α) (s : σ) (r : Aff α) (h : (Poly.removeRedundant eps lp p s).1 = .ok r) (x : List α)
    (hm : Poly.Mem p x) : Poly.Mem r x := by
  rcases removeRedundantLoop_run eps lp p r (fun _ => True) (fun _ _ _ _ _ _ _ => trivial) _ [] s trivial h
    with ⟨_, i, red', s', _, hi⟩ | ⟨red', rfl, _⟩
  · exact absurd ⟨x, hm.removeRows _⟩ (hinf s' _ _ hi)
  · exact hm.removeRows red'

theorem C15_remove_redundant_subseq {σ : Type} (eps : α) (lp : LPOracle σ α) (p : Aff α) (s : σ) (r : Aff α)
    (h : (Poly.removeRedundant eps lp p s).1 = .ok r) : r = Poly.empty p.indim ∨ r.rows.Sublist p.rows := by
  rcases removeRedundantLoop_run eps lp p r (fun _ => True) (fun _ _ _ _ _ _ _ => trivial) _ [] s trivial h
    with ⟨he, _⟩ | ⟨red', rfl, _⟩
  · exact Or.inl he
  · exact Or.inr (C15_remove_rows_subseq p red')

/-- no row that stays is implied by the other remaining rows by a margin of `eps` -/
theorem C15_remove_redundant_irredundant {σ : Type} (eps : α) (lp : LPOracle σ α) (hwit : WitnessIn lp)
    (hunb : UnboundedSound lp) (p : Aff α) (s : σ) (r : Aff α) (h : (Poly.removeRedundant eps lp p s).1 = .ok r) :
    r = Poly.empty p.indim ∨ ∃ red', r = p.removeRows red' ∧ ∀ i, i < p.mat.length → i ∉ red' →
      ∃ x, Poly.Mem (p.removeRows (i :: red')) x ∧ p.bias.getD i 0 + eps < dot (p.mat.getD i []) x := by
  rcases removeRedundantLoop_run eps lp p r (fun _ => True) (fun _ _ _ _ _ _ _ => trivial) _ [] s trivial h
    with ⟨he, _⟩ | ⟨red', hr, _, _, hk⟩
  · exact Or.inl he
  · refine Or.inr ⟨red', hr, fun i hi hir => ?_⟩
    obtain ⟨red₀, s', a, hsub, ha, hkept⟩ := hk i (List.mem_reverse.mpr (List.mem_range.mpr hi)) hir
    -- a point that shows row `i` needed once `red₀` is dropped still shows it once `red' ⊇ red₀` is dropped
    have still : ∀ x, Poly.Mem (p.removeRows (i :: red₀)) x → Poly.Mem (p.removeRows (i :: red')) x := fun x hx => by
      rw [Poly.mem_removeRows] at hx ⊢
      exact fun j hj => hx j fun hm => hj (List.cons_subset_cons i hsub hm)
    rcases hkept with rfl | ⟨xs, rfl, hnle⟩
    · obtain ⟨x, hx, hlt⟩ := hunb s' _ _ ha (-(p.bias.getD i 0 + eps))
      rw [dot_vneg_left] at hlt
      exact ⟨x, still x hx, lt_of_not_ge fun hge => not_le.mpr hlt (OF.neg_le_neg_iff.mpr hge)⟩
    · exact ⟨xs, still xs (hwit s' _ _ xs ha), lt_of_not_ge hnle⟩

def SoundEqv (eqv : List α × α → List α × α → Bool) : Prop :=
  ∀ r r', eqv r r' = true → ∀ x : List α, dot r.1 x ≤ r.2 ↔ dot r'.1 x ≤ r'.2

theorem dedupAux_mem (eqv : List α × α → List α × α → Bool) (h : SoundEqv eqv) (x : List α)
    (seen rs : List (List α × α)) (hs : ∀ s ∈ seen, dot s.1 x ≤ s.2) :
    (∀ r ∈ Poly.dedupAux eqv seen rs, dot r.1 x ≤ r.2) ↔ (∀ r ∈ rs, dot r.1 x ≤ r.2) := by
  induction rs generalizing seen with
  | nil => exact Iff.rfl
  | cons r rs ih =>
    -- once `r` holds at `x`, it joins the rows seen
    have ih' := fun hr : dot r.1 x ≤ r.2 =>
      ih (seen ++ [r]) (List.forall_mem_append.mpr ⟨hs, List.forall_mem_singleton.mpr hr⟩)
    rw [dedupAux_cons, List.forall_mem_cons]
    split
    · rename_i hany
      obtain ⟨s, hsm, he⟩ := List.any_eq_true.mp hany
      have hr : dot r.1 x ≤ r.2 := (h r s he x).mpr (hs s hsm)
      rw [ih' hr, and_iff_right hr]
    · rw [List.forall_mem_cons]
      exact and_congr_right ih'

theorem posMultiple_sound : SoundEqv (Poly.posMultiple : List α × α → List α × α → Bool) := by
  intro r r' h x
  unfold Poly.posMultiple at h
  split at h
  · cases h
  · rename_i a a' _
    simp only [Bool.and_eq_true, Bool.not_eq_true', decide_eq_false_iff_not, not_le, beq_iff_eq] at h
    obtain ⟨⟨hc, h1⟩, h2⟩ := h
    rw [h1, h2, dot_smul_left]
    exact mul_le_mul_iff_right₀ hc

theorem relEq_zero (a b : α) (h : Poly.relEq 0 a b = true) : a = b := by
  unfold Poly.relEq at h
  rw [mul_zero, Bool.or_self, decide_eq_true_eq] at h
  unfold Poly.absV at h
  split at h
  next h0 => exact sub_eq_zero.mp (le_antisymm h h0)
  next h0 => exact absurd (OF.neg_nonpos.mp h) h0

theorem dupEqv_zero_sound : SoundEqv (Poly.dupEqv (0 : α)) := by
  intro r r' h x
  unfold Poly.dupEqv at h
  simp only at h
  split at h
  · exact posMultiple_sound r r' h x
  · split at h
    · simp only [Bool.and_eq_true, beq_iff_eq, List.all_eq_true] at h
      obtain ⟨⟨hl, hz⟩, hb⟩ := h
      -- both lists are projections of their zip
      have h1 : r.1 = r'.1 := (List.map_fst_zip hl.le).symm.trans
        ((List.map_congr_left fun p hp => relEq_zero _ _ (hz p hp)).trans (List.map_snd_zip hl.ge))
      have h2 : r.2 = r'.2 := relEq_zero _ _ hb
      rw [h1, h2]
    · cases h

theorem C15_remove_duplicate_rows_subseq (eps : α) (p : Aff α) :
    (Poly.removeDuplicateRows eps p).rows.Sublist p.rows := by
  unfold Poly.removeDuplicateRows
  rw [Aff.rows_ofRows]
  exact dedupAux_sublist _ _ _

theorem C15_remove_duplicate_rows_sound (eqv : List α × α → List α × α → Bool) (h : SoundEqv eqv) (p : Aff α) (x : List α) :
    Poly.Mem (Aff.ofRows p.indim (Poly.dedupAux eqv [] p.rows)) x ↔ Poly.Mem p x := by
  rw [Poly.mem_ofRows]
  exact dedupAux_mem _ h x [] p.rows (List.forall_mem_nil _)

/-- PARTIAL: the code runs with `eps = f64::EPSILON`, for which the statement is false
    (`C15_remove_duplicate_rows_eps_counterexample`, known finding F-C15-duplicate-rows-below-epsilon) -/
theorem C15_remove_duplicate_rows_partial (p : Aff α) (x : List α) :
    Poly.Mem (Poly.removeDuplicateRows 0 p) x ↔ Poly.Mem p x :=
  C15_remove_duplicate_rows_sound _ dupEqv_zero_sound p x

example : (Poly.removeDuplicateRows 0 (⟨[[1, 0], [0, 1], [2, 0], [1, 0], [0, 0], [0, 0]], [1, 1, 2, 3, 5, 5], 2⟩ : Aff Rat)).rows
    = [([1, 0], 1), ([0, 1], 1), ([1, 0], 3), ([0, 0], 5)] := by decide +kernel

/-- with the code's `eps = 2⁻⁵²` the property fails: `2⁻⁶⁰·x ≤ 1` and `−2⁻⁶⁰·x ≤ 1` are "duplicates", the second is
    dropped, and `x = −2⁶¹` satisfies the result but not the original system (replayed on the implementation:
    known finding F-C15-duplicate-rows-below-epsilon) -/
theorem C15_remove_duplicate_rows_eps_counterexample :
    let eps : Rat := 1 / 2^52
    let p : Aff Rat := ⟨[[1 / 2^60], [-(1 / 2^60)]], [1, 1], 1⟩
    let x : List Rat := [-(2^61)]
    Poly.memb (Poly.removeDuplicateRows eps p) x = true ∧ Poly.memb p x = false := by
  decide +kernel

end AV
