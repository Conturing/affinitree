import AffVerif.Proofs.SchemaLemmas
/-!
# C16 — affine functions obey their algebra and named constructors their names

`compose` and `stack` over any commutative ring, the rest over any ordered field (so in particular over ℝ and ℚ), for
every dimension.
Dimension hypotheses are exactly the guards the code asserts (`compose`, `stack`) or that `ndarray`
enforces by construction (`WF`).
-/
set_option linter.unusedSectionVars false
set_option linter.unusedVariables false
namespace AV
variable {α : Type} [CommRing α]

theorem C16_compose (f g : Aff α) (x : List α)
    (hg : g.WF) (hf : f.WF) (hdim : f.indim = g.outdim) (hx : x.length = g.indim) :
    (f.compose g).apply x = f.apply (g.apply x) :=
  Aff.apply_compose f g x hg

theorem C16_stack (f g : Aff α) (x : List α) (hf : f.WF) :
    (f.stack g).apply x = f.apply x ++ g.apply x := by
  unfold Aff.stack Aff.apply matVec
  rw [List.map_append, vadd_append _ _ _ _ (by rw [List.length_map, hf.2])]

section ordered
variable {α : Type} [Field α] [LinearOrder α] [IsStrictOrderedRing α]

theorem C16_add_pointwise (f g : Aff α) (x : List α) (h : SameRows f.mat g.mat) :
    (f.add g).apply x = vadd (f.apply x) (g.apply x) := Aff.apply_add f g x h

theorem C16_sub_pointwise (f g : Aff α) (x : List α) (h : SameRows f.mat g.mat) :
    (f.sub g).apply x = vsub (f.apply x) (g.apply x) := Aff.apply_sub f g x h

theorem C16_neg_pointwise (f : Aff α) (x : List α) : f.neg.apply x = vneg (f.apply x) := Aff.apply_neg f x

/-- covers `*`, `/`, `%` of `impl_ops.rs`: any binary operator acts coefficient-wise on matrix and bias -/
theorem C16_coefficientwise (op : α → α → α) (f g : Aff α) :
    (f.zipWith op g).bias = List.zipWith op f.bias g.bias ∧
    (f.zipWith op g).mat = matZip (fun a b => List.zipWith op a b) f.mat g.mat := ⟨rfl, rfl⟩

theorem C16_identity (n : Nat) (x : List α) (hx : x.length = n) : (Aff.identity n : Aff α).apply x = x := by
  unfold Aff.identity Aff.apply
  rw [matVec_eye n x hx, vadd_zeros_right x n hx]

theorem C16_zero_idx (n i : Nat) (x : List α) (hx : x.length = n) :
    (Aff.zeroIdx n i : Aff α).apply x = x.set i 0 := by
  rw [Aff.zeroIdx, apply_diagIdx n i 0 x hx, zero_mul]

theorem C16_constant (n : Nat) (v : α) (x : List α) : (Aff.constant n v : Aff α).apply x = [v] := by
  unfold Aff.constant
  rw [apply_oneRow, dot_zeros_left, zero_add]

theorem C16_unit (n i : Nat) (x : List α) (hi : i < n) : (Aff.unit n i : Aff α).apply x = [x.getD i 0] := by
  unfold Aff.unit
  rw [apply_oneRow, dot_unitVec_lt hi, one_mul, add_zero]

theorem C16_translation (n : Nat) (off x : List α) (hx : x.length = n) :
    (Aff.translation n off : Aff α).apply x = vadd x off := by
  unfold Aff.translation Aff.apply
  rw [matVec_eye n x hx]

theorem C16_sum (n : Nat) (x : List α) (hx : x.length = n) : (Aff.sum n : Aff α).apply x = [x.sum] := by
  unfold Aff.sum
  rw [apply_oneRow, add_zero]
  subst hx
  congr 1
  induction x with
  | nil => rfl
  | cons a as ih => rw [List.length_cons, ones, List.replicate_succ, dot_cons, one_mul, List.sum_cons, ← ones, ih]

theorem C16_subtraction (n l r : Nat) (x : List α) (hl : l < n) (hr : r < n) (hlr : l ≠ r) :
    (Aff.subtraction n l r : Aff α).apply x = [x.getD l 0 - x.getD r 0] := by
  unfold Aff.subtraction
  rw [apply_oneRow, dot_subtraction_row n l r x hl hr hlr, add_zero]

theorem C16_rotation (n : Nat) (R : Mat α) (x : List α) (hR : R.length = n) :
    (Aff.rotation n R : Aff α).apply x = matVec R x := by
  unfold Aff.rotation Aff.apply
  exact vadd_zeros_right _ n (by rw [matVec_length, hR])

theorem C16_scaling (s x : List α) :
    (Aff.scaling s : Aff α).apply x = (List.range s.length).map (fun k => s.getD k 0 * x.getD k 0) := by
  unfold Aff.scaling Aff.apply diag
  rw [matVec_diagLike]
  exact vadd_zeros_right _ s.length (by rw [List.length_map, List.length_range])

theorem C16_uniform_scaling (n : Nat) (c : α) (x : List α) :
    (Aff.uniformScaling n c : Aff α).apply x = (List.range n).map (fun k => c * x.getD k 0) := by
  unfold Aff.uniformScaling
  rw [C16_scaling, List.length_replicate]
  refine List.map_congr_left fun k hk => ?_
  rw [List.getD_eq_getElem?_getD, List.getElem?_replicate, if_pos (List.mem_range.mp hk)]; rfl

theorem C16_slice (ref : List (Option α)) (x : List α) :
    (Aff.slice ref : Aff α).apply x =
      (List.range ref.length).map (fun k => match ref.getD k none with | none => x.getD k 0 | some v => v) := by
  rw [slice_eq_coord, apply_coord]
  refine List.map_congr_left fun k _ => ?_
  cases ref.getD k none <;> simp only [one_mul, add_zero, zero_mul, zero_add]

example : (Aff.compose (⟨[[1, 2]], [3], 2⟩ : Aff Int) ⟨[[1, 0], [0, 1]], [1, 1], 2⟩).apply [5, 7]
    = (⟨[[1, 2]], [3], 2⟩ : Aff Int).apply ((⟨[[1, 0], [0, 1]], [1, 1], 2⟩ : Aff Int).apply [5, 7]) := by decide

/-- how the rows of the function returned by `convert_to(repr)` are read as inequalities -/
def PRepr.holds (r : Poly.PRepr) (q : Aff α) (x : List α) : Prop :=
  ∀ rb ∈ q.rows,
    match r with
    | .leqBias => dot rb.1 x ≤ rb.2
    | .biasLeqZero => dot rb.1 x + rb.2 ≤ 0
    | .geqBias => rb.2 ≤ dot rb.1 x
    | .biasGeqZero => 0 ≤ dot rb.1 x + rb.2

theorem C16_convert_to (p : Aff α) (r : Poly.PRepr) (x : List α) :
    PRepr.holds r (Poly.convertTo p r) x ↔ Poly.Mem p x := by
  unfold PRepr.holds Poly.Mem Aff.rows
  cases r
  · rfl
  · simp only [Poly.convertTo, vneg, List.zip_map_right, List.forall_mem_map, Prod.map, id]
    exact forall₂_congr fun rb _ => by rw [← sub_eq_add_neg, OF.sub_nonpos]
  · simp only [Poly.convertTo, matNeg, vneg, List.zip_map, List.forall_mem_map, Prod.map]
    exact forall₂_congr fun rb _ => by rw [← vneg, dot_vneg_left, OF.neg_le_neg_iff]
  · simp only [Poly.convertTo, matNeg, List.zip_map_left, List.forall_mem_map, Prod.map, id]
    exact forall₂_congr fun rb _ => by rw [dot_vneg_left, neg_add_eq_sub, OF.sub_nonneg]

theorem C16_row (f : Aff α) (i : Nat) (x : List α) (hi : i < f.mat.length) (hb : f.bias.length = f.mat.length) :
    (f.row i).apply x = [(f.apply x).getD i 0] := by
  have hi' : i < f.bias.length := hb ▸ hi
  unfold Aff.row
  rw [apply_oneRow]
  simp [Aff.apply, vadd_eq_zipWith, matVec, List.getD_eq_getElem?_getD, hi, hi']

/-- `row_iter` followed by `from_row_iter` -/
theorem C16_rows_roundtrip (f : Aff α) (hb : f.bias.length = f.mat.length) : Aff.ofRows f.indim f.rows = f := by
  show (⟨(f.mat.zip f.bias).map Prod.fst, (f.mat.zip f.bias).map Prod.snd, f.indim⟩ : Aff α) = f
  rw [List.map_fst_zip hb.ge, List.map_snd_zip hb.le]

theorem C16_from_rows (n : Nat) (rs : List (List α × α)) (x : List α) :
    (Aff.ofRows n rs).apply x = rs.map (fun rb => dot rb.1 x + rb.2) := by
  rw [Aff.apply_eq, Aff.rows_ofRows]

/-- the value at `x` is the value of the reduced function at the remaining coordinates of `x` -/
theorem C16_remove_zero_columns (f : Aff α) (x : List α) (hf : f.WF) (hx : x.length = f.indim) :
    (f.removeZeroColumns).apply
        ((keepOf f.indim (fun j => f.mat.any (fun r => !(r.getD j 0 == 0)))).map (fun j => x.getD j 0))
      = f.apply x := by
  unfold Aff.removeZeroColumns Aff.apply matVec
  rw [List.map_map]
  congr 1
  refine List.map_congr_left fun r hr => ?_
  exact dot_keep f.indim _ r x (hf.1 r hr) fun j _ hp => by
    simpa only [Bool.not_eq_true', Bool.not_eq_false, OF.beq_iff_eq] using List.any_eq_false.mp hp r hr

/-- drop the entries whose position (counted from `i`) is listed -/
def dropIdxAux {γ : Type} : Nat → List Nat → List γ → List γ
  | _, _, [] => []
  | i, idxs, v :: vs => if idxs.contains i then dropIdxAux (i+1) idxs vs else v :: dropIdxAux (i+1) idxs vs

theorem removeRowsAux_map {γ : Type} (g : List α × α → γ) (i : Nat) (idxs : List Nat) (rows : List (List α × α)) :
    (Aff.removeRowsAux i idxs rows).map g = dropIdxAux i idxs (rows.map g) := by
  induction rows generalizing i with
  | nil => rfl
  | cons r rs ih =>
    rw [removeRowsAux_cons, List.map_cons]
    show _ = if idxs.contains i then dropIdxAux (i+1) idxs (rs.map g) else g r :: dropIdxAux (i+1) idxs (rs.map g)
    split
    · exact ih (i+1)
    · rw [List.map_cons, ih (i+1)]

theorem C16_remove_rows (f : Aff α) (idxs : List Nat) (x : List α) (hb : f.bias.length = f.mat.length) :
    (f.removeRows idxs).apply x = dropIdxAux 0 idxs (f.apply x) := by
  unfold Aff.removeRows
  rw [C16_from_rows, removeRowsAux_map, ← Aff.apply_eq]

theorem C16_remove_zero_rows (f : Aff α) (x : List α) :
    (f.removeZeroRows).apply x =
      (f.rows.filter (fun r => !(isZeroVec r.1 && r.2 == 0))).map (fun rb => dot rb.1 x + rb.2) ∧
    ∀ rb ∈ f.rows, (isZeroVec rb.1 && rb.2 == 0) = true → dot rb.1 x + rb.2 = 0 := by
  refine ⟨by unfold Aff.removeZeroRows; rw [C16_from_rows], ?_⟩
  intro rb _ h
  rw [Bool.and_eq_true, OF.beq_iff_eq] at h
  rw [dot_isZeroVec rb.1 x h.1, h.2, add_zero]

end ordered

end AV
