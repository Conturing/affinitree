import AffVerif.Props.C03
/-!
# C07 — tree arithmetic is the point-wise lifting of affine arithmetic

`a ∘ b` for `∘ ∈ {+, −, *, /}` is `generic_composition_inplace` with the schema "decisions copied, terminals
combined as `context ∘ original`"; it always prunes.  `leafAt t x` is the terminal map reached by `x`.
No dimension hypothesis is needed for the lifting law itself: decisions of the right operand are copied unchanged.
`C07_lift` is the law for the un-pruned lifting, `C07_lift_pruned` for the operator the crate computes;
`C07_add_pointwise`, `C07_sub_pointwise`, `C07_neg` read it point-wise; `C07_scalar_forms` are the mixed forms.
-/
set_option linter.unusedSectionVars false
namespace AV
section Structure
-- classes as implicit binders: see DESIGN.md §2
variable {α : Type} {_ : Zero α} {_ : Add α} {_ : Mul α} {_ : Sub α} {_ : LE α} {_ : DecidableLE α}

theorem PT.eval_lift_pointwise (op : Aff α → Aff α → Aff α) (vop : List α → List α → List α) (a b : PT α) (c : Nat)
    (x : List α)
    (h : ∀ u v, PT.leafAt a x = some u → PT.leafAt b x = some v → (op u v).apply x = vop (u.apply x) (v.apply x)) :
    PT.eval (PT.composeS (Schema.arith op) a b c).1 x =
      (PT.eval a x).bind (fun p => (PT.eval b x).map (fun q => vop p q)) := by
  rw [PT.eval_eq_leafAt, (leafAt_composeS_both (Schema.arith op) b x fun _ => x).1 a c fun _ _ _ => rfl,
    PT.eval_eq_leafAt a, PT.eval_eq_leafAt b]
  cases hu : PT.leafAt a x with
  | none => rfl
  | some u =>
    cases hv : PT.leafAt b x with
    | none => rfl
    | some v => exact congrArg some (h u v hu hv)

end Structure

variable {α : Type} [Field α] [LinearOrder α] [IsStrictOrderedRing α]

/-- the un-pruned lifting reaches the terminal `op u v`, where `u`, `v` are the terminals reached in `a` and `b`;
    it is undefined exactly when one of the operands is -/
theorem C07_lift (op : Aff α → Aff α → Aff α) (a b : PT α) (c : Nat) (x : List α) :
    PT.eval (PT.composeS (Schema.arith op) a b c).1 x =
      (PT.leafAt a x).bind (fun u => (PT.leafAt b x).map (fun v => (op u v).apply x)) := by
  rw [PT.eval_eq_leafAt, (leafAt_composeS_both (Schema.arith op) b x fun _ => x).1 a c fun _ _ _ => rfl, Option.map_bind]
  exact congrArg _ (funext fun u => Option.map_map ..)

/-- the operator the crate computes (pruning on the fly, any backend that is right about infeasibility):
    defined exactly when `a(x)` and `b(x)` are, value `(op u v)(x)` with operand order respected -/
theorem C07_lift_pruned {σ : Type} (tol : α) (lp : LPOracle σ α) (hlp : InfeasibleSound lp)
    (op : Aff α → Aff α → Aff α) (a b : PT α) (s : σ) (c : Nat) (x : List α) (n m : Nat)
    (ha : PT.Shaped 2 n m a) (hb : PT.Shaped 2 n m b) (hc : PT.InfSound [] a) :
    PT.eval (PT.composeP (Schema.arith op) (isEdgeFeasible tol lp) n [] a b s c).1 x =
      (PT.leafAt a x).bind (fun u => (PT.leafAt b x).map (fun v => (op u v).apply x)) := by
  rw [C03_arith_prune tol lp hlp op a b s c c x n m ha hb hc]
  exact C07_lift op a b c x

theorem C07_add_pointwise (a b : PT α) (c : Nat) (x : List α)
    (hshape : ∀ u v, PT.leafAt a x = some u → PT.leafAt b x = some v → SameRows u.mat v.mat) :
    PT.eval (PT.composeS (Schema.arith Aff.add) a b c).1 x =
      (PT.eval a x).bind (fun p => (PT.eval b x).map (fun q => vadd p q)) :=
  PT.eval_lift_pointwise Aff.add vadd a b c x fun u v hu hv => Aff.apply_add u v x (hshape u v hu hv)

theorem C07_sub_pointwise (a b : PT α) (c : Nat) (x : List α)
    (hshape : ∀ u v, PT.leafAt a x = some u → PT.leafAt b x = some v → SameRows u.mat v.mat) :
    PT.eval (PT.composeS (Schema.arith Aff.sub) a b c).1 x =
      (PT.eval a x).bind (fun p => (PT.eval b x).map (fun q => vsub p q)) :=
  PT.eval_lift_pointwise Aff.sub vsub a b c x fun u v hu hv => Aff.apply_sub u v x (hshape u v hu hv)

theorem C07_neg (a : PT α) (x : List α) :
    PT.eval (PT.mapTerminals Aff.neg a) x = (PT.eval a x).map vneg :=
  PKids.evalAt_mapTerminals Aff.neg vneg (.cons (some a) .nil) 0 x fun f => Aff.apply_neg f x

/-- the mixed forms: `tree ∘ f` combines every terminal `u` to `op u f`, `f ∘ tree` to `op f u` — operand order
    is respected (`a − f ≠ f − a`) -/
theorem C07_scalar_forms (op : Aff α → Aff α → Aff α) (a : PT α) (f : Aff α) (x : List α) :
    PT.eval (PT.mapTerminals (fun u => op u f) a) x = (PT.leafAt a x).map (fun u => (op u f).apply x) ∧
    PT.eval (PT.mapTerminals (fun u => op f u) a) x = (PT.leafAt a x).map (fun u => (op f u).apply x) := by
  constructor <;> rw [PT.eval_eq_leafAt, (leafAt_mapTerminals_both _ x).1, Option.map_map] <;> rfl

/-! non-vacuity: `relu + relu` at `3` and `−2` -/
example : PT.eval (PT.composeS (Schema.arith Aff.add) exRelu exRelu 10).1 [3] = some [6] := by decide +kernel
example : PT.eval (PT.composeS (Schema.arith Aff.add) exRelu exRelu 10).1 [-2] = some [0] := by decide +kernel

end AV
