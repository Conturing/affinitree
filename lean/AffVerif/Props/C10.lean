import AffVerif.Proofs.CertSound
import AffVerif.Proofs.Chebyshev
import AffVerif.Model.LP
/-!
# C10 — the LP layer classifies polytopes and optimises correctly

What can be proved is everything on the repository's side of the solver interface and the referee that
decides the implementation's answers: the certificate checkers used by the judge are sound, so the exact
simplex in the judge is an untrusted search. The floating-point simplex inside `minilp` is validated per
call, not proved.
-/
set_option linter.unusedSectionVars false
namespace AV
variable {α : Type} [Field α] [LinearOrder α] [IsStrictOrderedRing α]

/-- Motzkin transposition, in the direction the judge uses -/
theorem C10_motzkin_sound (n : Nat) (rows : List (Row α)) (y : List α)
    (h : checkInfeasible n rows y = true) : ¬ ∃ x, Sat rows x :=
  checkInfeasible_sound n rows y h

theorem C10_farkas_sound (p : Aff α) (y : List α)
    (h : checkInfeasible p.indim (polyRows p) y = true) : ¬ ∃ x, Poly.Mem p x := by
  rintro ⟨x, hx⟩
  exact checkInfeasible_sound _ _ _ h ⟨x, (sat_polyRows p x).mpr hx⟩

/-- `status()` is `solve_linprog` with the zero objective and `is_feasible` reports infeasible exactly when
    the backend does -/
theorem C10_isFeasible_spec {σ : Type} (lp : LPOracle σ α) (s : σ) (p : Aff α) :
    (Poly.isFeasible lp s p).1 = some false ↔ (lp s p (zeros p.indim)).1 = LPAnswer.infeasible := by
  unfold Poly.isFeasible Poly.status
  rcases h : lp s p (zeros p.indim) with ⟨a, s'⟩
  cases a <;> simp

theorem C10_optimal_cert_sound (n : Nat) (p : Aff α) (c x : List α) (v : α) (y : List α)
    (h : checkOptimal n p c x v y = true) :
    Poly.Mem p x ∧ dot c x = v ∧ ∀ z, Poly.Mem p z → v ≤ dot c z :=
  checkOptimal_sound n p c x v y h

theorem C10_unbounded_cert_sound (n : Nat) (p : Aff α) (c x d : List α) (h : checkUnbounded n p c x d = true) :
    (∃ z, Poly.Mem p z) ∧ ∀ M : α, ∃ z, Poly.Mem p z ∧ dot c z < M := by
  have hM := checkUnbounded_sound n p c x d h
  exact ⟨(hM 0).imp fun _ hz => hz.1, hM⟩

theorem C10_verdicts_exclusive (n : Nat) (p : Aff α) (c x : List α) (v : α) (y : List α)
    (h : checkOptimal n p c x v y = true) :
    (∀ x' d, checkUnbounded n p c x' d = false) ∧ (∀ y', checkInfeasible p.indim (polyRows p) y' = false) := by
  obtain ⟨hx, _, hmin⟩ := checkOptimal_sound n p c x v y h
  refine ⟨fun x' d => Bool.eq_false_iff.mpr fun hc => ?_,
    fun y' => Bool.eq_false_iff.mpr fun hc => C10_farkas_sound p y' hc ⟨x, hx⟩⟩
  obtain ⟨z, hz, hlt⟩ := checkUnbounded_sound n p c x' d hc v
  exact not_lt.mpr (hmin z hz) hlt

/-- the program of `chebyshev_center` holds at `(x, r)` exactly when `r ≥ 0` and the closed ball of radius `r` around `x`
    lies in the polytope; `norms` stands for the Euclidean row norms, which are not field operations -/
theorem C10_chebyshev_program (p : Aff α) (norms : List α) (hwf : p.WF) (hlen : norms.length = p.mat.length)
    (hn : ∀ t ∈ p.mat.zip norms, 0 ≤ t.2 ∧ t.2 * t.2 = dot t.1 t.1)
    (x : List α) (hx : x.length = p.indim) (r : α) :
    Poly.Mem (Poly.chebyshev p norms).1 (x ++ [r]) ↔
      0 ≤ r ∧ ∀ u : List α, u.length = p.indim → dot u u ≤ r * r → Poly.Mem p (vadd x u) := by
  unfold Poly.chebyshev Poly.Mem Aff.rows
  simp only
  rw [List.zip_append (by rw [List.length_zipWith, hlen, hwf.2, Nat.min_self]), List.forall_mem_append, and_comm,
    List.zip_cons_cons, List.zip_nil_right, List.forall_mem_singleton, dot_radius p.indim x r hx, OF.neg_nonpos]
  exact and_congr_right fun hr => cheb_rows p.indim x r hx hr p.mat norms p.bias hwf.1 hlen hn

/-- hence a certified optimum of the program is the centre and radius of a *largest* inscribed ball -/
theorem C10_chebyshev_largest (p : Aff α) (norms : List α) (hwf : p.WF) (hlen : norms.length = p.mat.length)
    (hn : ∀ t ∈ p.mat.zip norms, 0 ≤ t.2 ∧ t.2 * t.2 = dot t.1 t.1)
    (x : List α) (hx : x.length = p.indim) (r v : α) (y : List α)
    (hopt : checkOptimal (p.indim + 1) (Poly.chebyshev p norms).1 (Poly.chebyshev p norms).2 (x ++ [r]) v y = true) :
    (0 ≤ r ∧ ∀ u : List α, u.length = p.indim → dot u u ≤ r * r → Poly.Mem p (vadd x u)) ∧
    ∀ (x' : List α) (r' : α), x'.length = p.indim → 0 ≤ r' →
      (∀ u : List α, u.length = p.indim → dot u u ≤ r' * r' → Poly.Mem p (vadd x' u)) → r' ≤ r := by
  obtain ⟨hmem, hval, hmin⟩ := checkOptimal_sound _ _ _ _ _ _ hopt
  refine ⟨(C10_chebyshev_program p norms hwf hlen hn x hx r).mp hmem, fun x' r' hx' hr' hball => ?_⟩
  have hm' := (C10_chebyshev_program p norms hwf hlen hn x' hx' r').mpr ⟨hr', hball⟩
  have h1 := hmin _ hm'
  have hcost : ∀ (z : List α) (q : α), z.length = p.indim → dot (Poly.chebyshev p norms).2 (z ++ [q]) = -q :=
    dot_radius p.indim
  rw [hcost x' r' hx', ← hval, hcost x r hx] at h1
  exact OF.neg_le_neg_iff.mp h1

/-- non-vacuity: `x ≤ 1, −x ≤ −2` is refuted by the multipliers `(1, 1)` -/
example : checkInfeasible 1 (polyRows (⟨[[1], [-1]], [1, -2], 1⟩ : Aff Rat)) [1, 1] = true := by decide +kernel

/-- non-vacuity: `min x` over `−1 ≤ x ≤ 3` has the optimum `x = −1` with multipliers `(0, 1)` -/
example : checkOptimal 1 (⟨[[1], [-1]], [3, 1], 1⟩ : Aff Rat) [1] [-1] (-1) [0, 1] = true := by decide +kernel
/-- non-vacuity: `min −x` over `x ≥ −1` is unbounded along `d = 1` -/
example : checkUnbounded 1 (⟨[[-1]], [1], 1⟩ : Aff Rat) [-1] [0] [1] = true := by decide +kernel

end AV
