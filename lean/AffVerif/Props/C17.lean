import AffVerif.Props.C02
import AffVerif.Props.C04
import AffVerif.Props.C16
/-!
# C17 — predefined trees equal their mathematical definitions everywhere

For every dimension `n`, component `r < n`, parameter value and input of length `n` — breakpoints included,
because the comparisons in `Spec.*` are the very comparisons that decide the label (`≤` routes to the closed
side).  `Spec.onComp x r φ` replaces component `r` by `φ (x_r)` and leaves the others untouched.
Proved here: the six per-neuron activations, `from_poly` (total and partial), `class_characterization`, `inf_norm`,
the `argmax` tournament, and `from_slice` + `remove_axes` (`C17_slice`: the restriction of any tree to an axis-aligned
slice, via the composition law of C02 and the fact that a tree composed behind `slice` ignores the fixed axes).
-/
set_option linter.unusedSectionVars false
set_option linter.unusedVariables false
namespace AV
section lists
variable {α : Type} [Zero α]

theorem all_getD (x : List α) (P : α → Bool) : x.all P = true ↔ ∀ i < x.length, P (x.getD i 0) = true := by
  rw [List.all_eq_true, List.forall_mem_iff_forall_getElem]
  exact forall₂_congr fun i hi => by rw [List.getElem_eq_getD 0]

-- classes as implicit binders: see DESIGN.md §2
variable {_ : Add α} {_ : Mul α} {_ : Sub α} {_ : LE α} {_ : DecidableLE α}

theorem labelBits_map (f : List α → List α) (M : Mat α) (b x y : List α) (h : ∀ r ∈ M, dot (f r) y = dot r x) :
    labelBits (M.map f) b y = labelBits M b x :=
  Aff.label_of_rows_map (p := ⟨M, b, 0⟩) (q := ⟨M.map f, b, 0⟩) (fun rb => (f rb.1, rb.2)) (List.zip_map_left ..)
    fun rb hrb => congrArg (· - rb.2) (h rb.1 (List.of_mem_zip hrb).1)

end lists

variable {α : Type} [Field α] [LinearOrder α] [IsStrictOrderedRing α]

/-! Each activation tree is unfolded to decisions on the rows `±x_r ≤ b` (`eval_dec_axis`) with leaves that rewrite
component `r` (`apply_*`); what is left is to read the tree's comparisons as those of the definition. -/

theorem C17_leaky_relu (n r : Nat) (a : α) (x : List α) (hr : r < n) (hx : x.length = n) :
    PT.eval (Sch.partialLeakyReLU n r a) x = some (Spec.onComp x r (Spec.leakyRelu a)) := by
  unfold Sch.partialLeakyReLU Spec.onComp Spec.leakyRelu
  rw [show (Aff.unit n r : Aff α) = Sch.axisPred n r 1 0 from rfl]
  simp only [eval_dec_axis _ _ _ _ _ _ _ x hr, eval_leaf, apply_diagIdx n r a x hx, C16_identity n x hx, one_mul,
    apply_ite (fun v => some (x.set r v)), set_getD_self]

/-- the tree is that of leaky ReLU with slope 0 -/
theorem C17_relu (n r : Nat) (x : List α) (hr : r < n) (hx : x.length = n) :
    PT.eval (Sch.partialReLU n r) x = some (Spec.onComp x r Spec.relu) :=
  (C17_leaky_relu n r 0 x hr hx).trans
    (congrArg (fun φ => some (Spec.onComp x r φ)) (funext fun v => if_congr Iff.rfl (zero_mul v) rfl))

theorem C17_hard_tanh (n r : Nat) (lo hi : α) (x : List α) (hr : r < n) (hx : x.length = n) :
    PT.eval (Sch.partialHardTanh n r lo hi) x = some (Spec.onComp x r (Spec.hardTanh lo hi)) := by
  unfold Sch.partialHardTanh Spec.onComp Spec.hardTanh
  simp only [eval_dec_axis _ _ _ _ _ _ _ x hr, eval_leaf, apply_setConst n r _ x hx, C16_identity n x hx,
    OF.neg_one_mul, one_mul, OF.neg_le_neg_iff, apply_ite (fun v => some (x.set r v)), set_getD_self]

theorem C17_hard_shrink (n r : Nat) (lam : α) (x : List α) (hr : r < n) (hx : x.length = n) :
    PT.eval (Sch.partialHardShrink n r lam) x = some (Spec.onComp x r (Spec.hardShrink lam)) := by
  unfold Sch.partialHardShrink Spec.onComp Spec.hardShrink
  -- the tree asks `v ≤ λ`, then `−v ≤ λ`; the definition asks the negations `λ < v`, then `v < −λ`, i.e. `¬ −λ ≤ v`
  simp only [eval_dec_axis _ _ _ _ _ _ _ x hr, eval_leaf, C16_zero_idx n r x hx, C16_identity n x hx, OF.neg_one_mul,
    one_mul, apply_ite (fun v => some (x.set r v)), set_getD_self, ← not_le, ite_not,
    ← OF.neg_le_neg_iff (a := x.getD r 0), neg_neg]

/-- hard sigmoid with the constants of the code as parameters: `three = 3`, `sixth` (the code uses the `f64`
    value of `1/6`), `half = 1/2`; instantiate with `sixth = 1/6` for the textbook function -/
theorem C17_hard_sigmoid (n r : Nat) (three sixth half : α) (x : List α) (hr : r < n) (hx : x.length = n) :
    PT.eval (Sch.partialHardSigmoid n r three sixth half) x =
      some (Spec.onComp x r (Spec.hardSigmoid three sixth half)) := by
  unfold Sch.partialHardSigmoid Spec.onComp Spec.hardSigmoid
  simp only [eval_dec_axis _ _ _ _ _ _ _ x hr, eval_leaf, apply_setConst n r _ x hx, apply_scaleShift n r _ _ x hx,
    OF.neg_one_mul, one_mul, OF.neg_le_neg_iff, apply_ite (fun v => some (x.set r v))]

theorem C17_threshold (n r : Nat) (thr v : α) (x : List α) (hr : r < n) (hx : x.length = n) :
    PT.eval (Sch.partialThreshold n r thr v) x = some (Spec.onComp x r (Spec.threshold thr v)) := by
  unfold Sch.partialThreshold Spec.onComp Spec.threshold
  simp only [eval_dec_axis _ _ _ _ _ _ _ x hr, eval_leaf, apply_setConst n r _ x hx, C16_identity n x hx, one_mul,
    apply_ite (fun v => some (x.set r v)), set_getD_self]

theorem all_memb_iff (rows : List (Aff α)) (x : List α) :
    rows.all (fun a => Poly.memb a x) = true ↔ ∀ r ∈ rows, Poly.Mem r x :=
  List.all_eq_true.trans (forall₂_congr fun r _ => Poly.memb_iff r x)

theorem C17_from_poly (p fT : Aff α) (fF : Option (Aff α)) (hwf : p.WF) (x : List α) :
    (Poly.Mem p x → PT.eval (Sch.fromPoly p fT fF) x = some (fT.apply x)) ∧
    (¬ Poly.Mem p x → PT.eval (Sch.fromPoly p fT fF) x = fF.map (·.apply x)) := by
  -- the one-row predicates `p.row i` hold together exactly on `p`
  have hall : ((List.range p.mat.length).map fun i => p.row i).all (fun a => Poly.memb a x) = true ↔ Poly.Mem p x := by
    rw [all_memb_iff, List.forall_mem_map, Poly.mem_iff_getD p hwf.2]
    exact forall_congr' fun i => by rw [List.mem_range, Aff.row, Poly.mem_singleton]
  have h := eval_chain fF fT ((List.range p.mat.length).map fun i => p.row i) 0 1 x
    (List.forall_mem_map.mpr fun i _ => ⟨_, _, _, rfl⟩)
  exact ⟨fun hm => h.trans (if_pos (hall.mpr hm)), fun hn => h.trans (if_neg (mt hall.mp hn))⟩

theorem eval_indicatorChain (n : Nat) (rows : List (Aff α)) (x : List α) (P : Bool)
    (hone : ∀ q ∈ rows, OneRow q) (hall : (∀ r ∈ rows, Poly.Mem r x) ↔ P = true) :
    PT.eval (match rows with
      | [] => Sch.leaf 0 (Aff.constant n 1)
      | r :: rs => Sch.chainNode (some (Aff.constant n (0 : α))) (Aff.constant n 1) 0 r rs 1) x =
      some [if P then 1 else 0] := by
  refine (eval_chain _ _ rows 0 1 x hone).trans ?_
  rw [Bool.eq_iff_iff.mpr ((all_memb_iff rows x).trans hall)]
  cases P
  · exact congrArg some (C16_constant n 0 x)
  · exact congrArg some (C16_constant n 1 x)

theorem C17_class_char (n c : Nat) (x : List α) (hc : c < n) (hx : x.length = n) :
    PT.eval (Sch.classChar n c : PT α) x = some [if Spec.isMax x c then 1 else 0] := by
  unfold Sch.classChar
  refine eval_indicatorChain n _ x _ (List.forall_mem_map.mpr fun i _ => ⟨_, _, _, rfl⟩) ?_
  rw [Spec.isMax, all_getD, hx, List.forall_mem_map]
  refine List.forall_mem_filter.trans (forall_congr' fun i => ?_)
  rw [List.mem_range]
  refine forall_congr' fun hi => ?_
  by_cases hic : i = c
  · -- there is no row for `c` itself
    exact iff_of_true (fun h => absurd hic (of_decide_eq_true h)) (decide_eq_true (hic ▸ le_refl _))
  · -- the row of `i ≠ c` says `x_i ≤ x_c`
    rw [Aff.subtraction, Poly.mem_singleton, dot_subtraction_row n i c x hi hc hic, OF.sub_nonpos, decide_eq_true_iff,
      decide_eq_true_iff]
    exact ⟨fun h => h hic, fun h _ => h⟩

theorem C17_inf_norm (n : Nat) (lo hi : Option α) (x : List α) (hx : x.length = n) :
    PT.eval (Sch.infNorm n lo hi : PT α) x = some [if Spec.inBounds x lo hi then 1 else 0] := by
  -- the rows `c·x_i ≤ b` for all axes `i`
  have side : ∀ c b : α, (∀ r ∈ (List.range n).map (fun i => (Sch.axisPred n i c b : Aff α)), Poly.Mem r x) ↔
      ∀ i < n, c * x.getD i 0 ≤ b := fun c b => by
    rw [List.forall_mem_map]
    exact forall_congr' fun i => by
      rw [List.mem_range]
      exact forall_congr' fun hi => by rw [Sch.axisPred, Poly.mem_singleton, dot_unitVec_lt hi]
  unfold Sch.infNorm
  dsimp only
  apply eval_indicatorChain
  · rw [List.forall_mem_append]
    constructor
    · cases lo with
      | none => exact List.forall_mem_nil _
      | some l => exact List.forall_mem_map.mpr fun i _ => ⟨_, _, _, rfl⟩
    · cases hi with
      | none => exact List.forall_mem_nil _
      | some u => exact List.forall_mem_map.mpr fun i _ => ⟨_, _, _, rfl⟩
  · -- both sides are a conjunction over the axes of a lower-bound part and an upper-bound part
    rw [Spec.inBounds, all_getD, hx, List.forall_mem_append]
    simp only [Bool.and_eq_true, forall₂_and]
    refine and_congr ?_ ?_
    · cases lo with
      | none => exact iff_of_true (List.forall_mem_nil _) fun _ _ => rfl
      | some l => simp only [side, OF.neg_one_mul, OF.neg_le_neg_iff, decide_eq_true_eq]
    · cases hi with
      | none => exact iff_of_true (List.forall_mem_nil _) fun _ _ => rfl
      | some u => simp only [side, one_mul, decide_eq_true_eq]

/-- `t` returns the first maximiser among the current champion `k` and the components from `mf` on (ties go to the
    champion, as in `Spec.argmaxFrom`) -/
def Champion (ofNat : Nat → α) (x : List α) (mf k : Nat) (t : PT α) : Prop :=
  PT.eval t x = some [ofNat (Spec.argmaxFrom (x.drop mf) mf k (x.getD k 0))]

/-- one comparison: whichever of `mf`, `mt` wins goes on against the components from `mf + 1` on -/
theorem Champion.node {n : Nat} {ofNat : Nat → α} {x : List α} (hx : x.length = n) {idx mf mt : Nat} {t0 t1 : PT α}
    (hlt : mt < mf) (hmf : mf < n) (h0 : Champion ofNat x (mf+1) mf t0) (h1 : Champion ofNat x (mf+1) mt t1) :
    Champion ofNat x mf mt (Sch.dec idx (Aff.subtraction n mf mt) (some t0) (some t1)) := by
  unfold Champion Aff.subtraction
  -- the row is `x_mf − x_mt ≤ 0`
  rw [eval_dec_oneRow, dot_subtraction_row n mf mt x hmf (hlt.trans hmf) hlt.ne',
    if_congr OF.sub_nonpos rfl rfl, List.drop_eq_getElem_cons (hx ▸ hmf), List.getElem_eq_getD 0, Spec.argmaxFrom]
  split
  · exact h1
  · exact h0

/-- past the last component the winner is known -/
theorem Champion.leaf {n : Nat} {ofNat : Nat → α} {x : List α} (hx : x.length = n) {c mf k : Nat} (h : n ≤ mf) :
    Champion ofNat x mf k (Sch.leaf c (Aff.constant n (ofNat k))) := by
  unfold Champion
  rw [List.drop_eq_nil_of_le (hx ▸ h)]
  exact congrArg some (C16_constant n _ x)

theorem eval_argmaxNode (n : Nat) (ofNat : Nat → α) (x : List α) (hx : x.length = n) :
    ∀ (fuel idx mf mt c : Nat), mt < mf → mf < n → n ≤ mf + 1 + fuel →
      Champion ofNat x mf mt (Sch.argmaxNode n ofNat fuel idx (Aff.subtraction n mf mt) mf mt c).1 := by
  intro fuel
  induction fuel with
  | zero => exact fun idx mf mt c hlt hmf h => .node hx hlt hmf (.leaf hx h) (.leaf hx h)
  | succ fuel ih =>
    intro idx mf mt c hlt hmf hn
    rw [Sch.argmaxNode]
    split
    · rename_i hmore
      exact .node hx hlt hmf (ih c (mf+1) mf _ (Nat.lt_succ_self mf) hmore (by omega))
        (ih (c+1) (mf+1) mt (c+2) (Nat.lt_succ_of_lt hlt) hmore (by omega))
    · exact .node hx hlt hmf (.leaf hx (Nat.le_of_not_lt ‹_›)) (.leaf hx (Nat.le_of_not_lt ‹_›))

theorem C17_argmax (n : Nat) (ofNat : Nat → α) (x : List α) (hn : 2 ≤ n) (hx : x.length = n) :
    PT.eval (Sch.argmax n ofNat) x = some [ofNat (Spec.argmax x)] := by
  refine (eval_argmaxNode n ofNat x hx n 0 1 0 1 Nat.zero_lt_one hn (by omega)).trans ?_
  cases x with
  | nil => subst hx; exact absurd hn (Nat.not_succ_le_zero 1)
  | cons v vs => rfl

/-! non-vacuity: ReLU on the second of three components, at the breakpoint and on both sides -/
example : PT.eval (Sch.partialReLU 3 1 : PT Rat) [5, 0, -2] = some [5, 0, -2] := by decide +kernel
example : PT.eval (Sch.partialReLU 3 1 : PT Rat) [5, -7, -2] = some [5, 0, -2] := by decide +kernel
example : PT.eval (Sch.partialHardShrink 1 0 (2 : Rat)) [2] = some [0] := by decide +kernel

/-- `p j = false` marks a dropped axis -/
def Aff.FreeOf (n : Nat) (p : Nat → Bool) (a : Aff α) : Prop :=
  ∀ r ∈ a.mat, r.length = n ∧ ∀ j < n, p j = false → r.getD j 0 = 0

mutual
def PT.FreeOf (n : Nat) (p : Nat → Bool) : PT α → Prop
  | .node _ c ks => Aff.FreeOf n p c.aff ∧ PKids.FreeOf n p ks
def PKids.FreeOf (n : Nat) (p : Nat → Bool) : PKids α → Prop
  | .nil => True
  | .cons none r => PKids.FreeOf n p r
  | .cons (some t) r => PT.FreeOf n p t ∧ PKids.FreeOf n p r
end

theorem PKids.evalAt_removeAxes (n : Nat) (p : Nat → Bool) (ks : PKids α) (l : Nat) (x : List α) (hx : x.length = n)
    (hf : PKids.FreeOf n p ks) :
    PKids.evalAt (Sch.removeAxesK (keepOf n p) ks) l ((keepOf n p).map (fun j => x.getD j 0)) = PKids.evalAt ks l x := by
  induction ks using IKids.nested_ind generalizing l with
  | nil => rfl
  | none r ih => cases l with
    | zero => rfl
    | succ l => exact ih l hf
  | some i c ks r ihk ih =>
    obtain ⟨⟨hc, hks⟩, hr⟩ : (Aff.FreeOf n p c.aff ∧ PKids.FreeOf n p ks) ∧ PKids.FreeOf n p r := hf
    cases l with
    | succ l => exact ih l hr
    | zero =>
      have hrow : ∀ r ∈ c.aff.mat, dot ((keepOf n p).map (fun j => r.getD j 0)) ((keepOf n p).map (fun j => x.getD j 0)) = dot r x :=
        fun r hr => dot_keep n p r x (hc r hr).1 (hc r hr).2
      -- the node keeps its kids' shape; its map and its label see `x` only through the products `hrow`
      have hmv : matVec (c.aff.mat.map fun r => (keepOf n p).map fun j => r.getD j 0) ((keepOf n p).map fun j => x.getD j 0) =
          matVec c.aff.mat x := List.map_map.trans (List.map_congr_left hrow)
      show (if (Sch.removeAxesK (keepOf n p) ks).allNone then some (vadd (matVec (c.aff.mat.map _) _) c.aff.bias)
        else PKids.evalAt (Sch.removeAxesK (keepOf n p) ks) (labelBits (c.aff.mat.map _) c.aff.bias _) _) = PT.eval (.node i c ks) x
      rw [PKids.removeAxesK_allNone, hmv, labelBits_map _ _ _ x _ hrow, ihk _ hks]
      rfl

def ColZero (n : Nat) (p : Nat → Bool) (s : Aff α) : Prop :=
  ∀ j < n, p j = false → ∀ e ∈ matVec s.mat (unitVec n j 1), e = 0

/-- entry `j` of a row `r0·S` is `r0·(S eⱼ)` -/
theorem upd_free (p : Nat → Bool) (s : Aff α) (hs : ∀ b ∈ s.mat, b.length = s.indim) (hc : ColZero s.indim p s)
    (o : Aff α) (leaf : Bool) : Aff.FreeOf s.indim p (Schema.compose.upd leaf o s) := by
  have key : Aff.FreeOf s.indim p ⟨matMul s.indim o.mat s.mat, [], 0⟩ := fun r hr => by
    obtain ⟨r0, -, rfl⟩ := List.mem_map.mp hr
    refine ⟨vecMat_length s.indim r0 s.mat hs, fun j hj hp => ?_⟩
    rw [← one_mul (List.getD _ j 0), ← dot_unitVec_lt hj, dot_comm, dot_vecMat s.indim r0 s.mat _ hs, dot_comm]
    exact dot_all_zero _ _ (hc j hj hp)
  cases leaf <;> exact key

/-- whatever is copied below a map whose columns vanish at the dropped axes is free of them -/
theorem graft_free_both (p : Nat → Bool) (s : Aff α) (hs : ∀ b ∈ s.mat, b.length = s.indim) (hc : ColZero s.indim p s) :
    (∀ g c, PT.FreeOf s.indim p (PT.graft Schema.compose g s c).1) ∧
    ∀ ks c, PKids.FreeOf s.indim p (PKids.graft Schema.compose ks s c).1 :=
  ITree.ind (fun j gc gk ih c => ⟨upd_free p s hs hc gc.aff _, ih (c+1)⟩) (fun _ => trivial) (fun r ih c => ih c)
    (fun t r iht ih c => ⟨iht c, ih _⟩)

theorem PT.graft_free (n : Nat) (p : Nat → Bool) (s : Aff α) (hn : s.indim = n) (hs : ∀ b ∈ s.mat, b.length = n)
    (hc : ColZero n p s) (K m : Nat) (g : PT α) (c : Nat) (hg : PT.Shaped K s.mat.length m g) :
    PT.FreeOf n p (PT.graft Schema.compose g s c).1 := by
  subst hn
  exact (graft_free_both p s hs hc).1 g c

theorem slice_colZero (ref : List (Option α)) :
    ColZero ref.length (fun j => (ref.getD j none).isNone) (Aff.slice ref : Aff α) := by
  intro j hj hp e he
  rw [slice_eq_coord, matVec_diagLike] at he
  obtain ⟨k, hk, rfl⟩ := List.mem_map.mp he
  rw [getD_unitVec _ _ _ _ (List.mem_range.mp hk)]
  by_cases hkj : k = j
  · -- the diagonal entry of a fixed axis is `0`
    subst hkj
    cases h : ref.getD k none with
    | none => exact Bool.noConfusion ((congrArg Option.isNone h).symm.trans hp)
    | some v => exact zero_mul _
  · rw [if_neg hkj, mul_zero]

/-- `from_slice(ref).compose(g)` followed by `remove_axes(free axes)` is the restriction of `g` to the slice: its value
    at the free coordinates of a point `x` is the value of `g` at `x` with the fixed axes set to the reference values -/
theorem C17_slice (K m : Nat) (g : PT α) (ref : List (Option α)) (x : List α) (hx : x.length = ref.length)
    (hg : PT.Shaped K ref.length m g) :
    PT.eval (Sch.removeAxes (keepOf ref.length (fun j => (ref.getD j none).isNone))
        (PT.compose (PT.fromAff K (Aff.slice ref)) g))
      ((keepOf ref.length (fun j => (ref.getD j none).isNone)).map (fun j => x.getD j 0))
    = PT.eval g ((List.range ref.length).map (fun k => match ref.getD k none with | none => x.getD k 0 | some v => v)) := by
  have hfree : PT.FreeOf ref.length (fun j => (ref.getD j none).isNone) (PT.compose (PT.fromAff K (Aff.slice ref)) g) := by
    match g with
    | .node j gc gk =>
      -- the slice is a terminal: composing grafts `g` below it
      rw [PT.compose, PT.fromAff, PT.composeS_terminal (IKids.allNone_empty K)]
      exact ⟨upd_free _ _ (slice_ok ref).1.1 (slice_colZero ref) gc.aff _,
        (graft_free_both _ _ (slice_ok ref).1.1 (slice_colZero ref)).2 gk _⟩
  -- a tree is the one slot of a slot list
  refine Eq.trans (b := PT.eval _ x) (PKids.evalAt_removeAxes _ _ (.cons (some _) .nil) 0 x hx ⟨hfree, trivial⟩) ?_
  rw [C02_compose_law' _ g x K _ _ m hx (C04_ctor_from_aff K (Aff.slice ref) (slice_ok ref).1) ((slice_ok ref).2.2.symm ▸ hg),
    show PT.eval (PT.fromAff K (Aff.slice ref : Aff α)) x = some ((Aff.slice ref).apply x) from
      if_pos (IKids.allNone_empty K), Option.bind_some, C16_slice]
  rfl

end AV
