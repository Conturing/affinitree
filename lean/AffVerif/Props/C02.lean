import AffVerif.Proofs.ComposeLaw
/-!
# C02 — composition law: `f.compose(g)` is `g` after `f`, undefinedness included

For every branching factor `K`, total or partial operands, leaf-rooted operands, every input.
`Shaped K n m t` is the guard under which the code does not panic (matching dimensions; it is what the
crate's constructors establish, see C04).
`C02_compose_law(')` is the law, `C02_decision_update` the rewritten predicates, `C02_apply_func` the affine right
operand, `C02_keeps_indices` the indices and positions of the surviving nodes.
-/
set_option linter.unusedSectionVars false
set_option linter.unusedVariables false
namespace AV
section Structure
variable {α : Type}

mutual
/-- `h` extends `f`: same index at every position of `f`; below a terminal of `f` anything may hang -/
def PT.Extends : PT α → PT α → Prop
  | .node i _ fk, h => i = h.idx ∧ (fk.allNone = true ∨ PKids.Extends fk h.kids)
def PKids.Extends : PKids α → PKids α → Prop
  | .nil, hs => hs = .nil
  | .cons none r, hs =>
    match hs with
    | .cons none s => PKids.Extends r s
    | _ => False
  | .cons (some a) r, hs =>
    match hs with
    | .cons (some b) s => PT.Extends a b ∧ PKids.Extends r s
    | _ => False
end

theorem composeS_extends_both (S : Schema α) (g : PT α) :
    (∀ f c, PT.Extends f (PT.composeS S f g c).1) ∧ ∀ ks c, PKids.Extends ks (PKids.composeS S ks g c).1 := by
  refine ITree.ind (fun i fc kids ih c => ?_) (fun _ => rfl) (fun r ih c => ih c) (fun k r ihk ih c => ⟨ihk c, ih _⟩)
  cases hl : kids.allNone with
  | true => rw [PT.composeS_terminal hl]; exact ⟨rfl, Or.inl hl⟩
  | false => rw [PT.composeS_decision hl]; exact ⟨rfl, Or.inr (ih c)⟩

end Structure

variable {α : Type} [Field α] [LinearOrder α] [IsStrictOrderedRing α]

theorem PKids.evalAt_composeS (ks : PKids α) (g : PT α) (c : Nat) (x : List α) (K n m p : Nat) (l : Nat)
    (hx : x.length = n) (hk : PKids.Shaped K n m ks) (hg : PT.Shaped K m p g) :
    PKids.evalAt (PKids.composeS Schema.compose ks g c).1 l x = (PKids.evalAt ks l x).bind (PT.eval g) := by
  have hwf : ∀ u, PKids.leafAtK ks l x = some u → u.WF := fun u hu => (leafAtK_shaped ks K n m l x u hk hu).1
  rw [PKids.evalAt_eq_leafAtK, PKids.evalAt_eq_leafAtK ks, (leafAt_composeS_both Schema.compose g x (·.apply x)).2 ks c l
    fun u hu d => Aff.label_updDecision d u x (hwf u hu)]
  cases ho : PKids.leafAtK ks l x with
  | none => rfl
  | some u =>
    rw [Option.bind_some, Option.map_some, Option.bind_some, Option.map_map, PT.eval_eq_leafAt]
    exact congrArg (Option.map · _) (funext fun v => Aff.apply_compose v u x (hwf u ho))

/-- `h = f.compose::<false>(g)`: `h(x)` is defined exactly when `f(x)` and `g(f(x))` are, and then equals `g(f(x))` -/
theorem C02_compose_law (f g : PT α) (c : Nat) (x : List α) (K n m p : Nat)
    (hx : x.length = n) (hf : PT.Shaped K n m f) (hg : PT.Shaped K m p g) :
    PT.eval (PT.composeS Schema.compose f g c).1 x = (PT.eval f x).bind (PT.eval g) :=
  -- a tree is slot 0 of the one-slot list that holds it
  PKids.evalAt_composeS (.cons (some f) .nil) g c x K n m p 0 hx ⟨hf, trivial⟩ hg

/-- the same for the entry point the judge runs -/
theorem C02_compose_law' (f g : PT α) (x : List α) (K n m p : Nat)
    (hx : x.length = n) (hf : PT.Shaped K n m f) (hg : PT.Shaped K m p g) :
    PT.eval (PT.compose f g) x = (PT.eval f x).bind (PT.eval g) :=
  C02_compose_law f g _ x K n m p hx hf hg

theorem C02_decision_update (d t : Aff α) (x : List α)
    (ht : t.WF) (hd : ∀ r ∈ d.mat, r.length = t.outdim) (hx : x.length = t.indim) :
    (d.updDecision t).label x = d.label (t.apply x) :=
  Aff.label_updDecision d t x ht

theorem PKids.evalAt_mapTerminals (φ : Aff α → Aff α) (ψ : List α → List α) (ks : PKids α) (l : Nat) (x : List α)
    (h : ∀ a : Aff α, (φ a).apply x = ψ (a.apply x)) :
    PKids.evalAt (PKids.mapTerminals φ ks) l x = (PKids.evalAt ks l x).map ψ := by
  rw [PKids.evalAt_eq_leafAtK, PKids.evalAt_eq_leafAtK, PKids.leafAtK_mapTerminals, Option.map_map, Option.map_map]
  exact congrArg (Option.map · _) (funext h)

/-! `apply_func(a)` is the special case of an affine right operand: `(f.apply_func(a))(x) = a(f(x))`.
The hypothesis says that `a` composes with every map of the tree (all terminals have `a.indim` rows —
the guard `AffFunc::compose` asserts). -/

theorem PKids.evalAt_applyFunc (ks : PKids α) (a : Aff α) (l : Nat) (x : List α) (K n : Nat)
    (ha : a.WF) (hx : x.length = n) (hk : PKids.Shaped K n a.indim ks) :
    PKids.evalAt (PKids.mapTerminals (fun f => a.compose f) ks) l x = (PKids.evalAt ks l x).map a.apply := by
  rw [PKids.evalAt_eq_leafAtK, PKids.leafAtK_mapTerminals, PKids.evalAt_eq_leafAtK]
  cases ho : PKids.leafAtK ks l x with
  | none => rfl
  | some u => exact congrArg some (Aff.apply_compose a u x (leafAtK_shaped ks K n a.indim l x u hk ho).1)

theorem C02_apply_func (t : PT α) (a : Aff α) (x : List α) (K n : Nat)
    (ha : a.WF) (hx : x.length = n) (ht : PT.Shaped K n a.indim t) :
    PT.eval (PT.applyFunc t a) x = (PT.eval t x).map a.apply :=
  PKids.evalAt_applyFunc (.cons (some t) .nil) a 0 x K n ha hx ⟨ht, trivial⟩

theorem PKids.composeS_extends (S : Schema α) (ks : PKids α) (g : PT α) (c : Nat) :
    PKids.Extends ks (PKids.composeS S ks g c).1 :=
  (composeS_extends_both S g).2 ks c

/-- every node of `f` is found at the same position with the same index in `f.compose(g)` -/
theorem C02_keeps_indices (f g : PT α) (c : Nat) :
    PT.Extends f (PT.composeS Schema.compose f g c).1 :=
  (composeS_extends_both Schema.compose g).1 f c

/-! non-vacuity: a concrete pair of shaped trees -/

/-- `x ≤ 0 ? 0 : x` on ℚ -/
def exRelu : PT Rat :=
  .node 0 ⟨⟨[[1]], [0], 1⟩, .indeterminate⟩
    (.cons (some (.node 1 ⟨⟨[[1]], [0], 1⟩, .indeterminate⟩ (.cons none (.cons none .nil))))
    (.cons (some (.node 2 ⟨⟨[[0]], [0], 1⟩, .indeterminate⟩ (.cons none (.cons none .nil)))) .nil))

theorem exRelu_shaped : PT.Shaped 2 1 1 exRelu := by
  simp [exRelu, PT.Shaped, PKids.Shaped, Aff.WF, IKids.allNone, IKids.length, Aff.outdim]

example : PT.Shaped 2 1 1 exRelu := exRelu_shaped

example : PT.eval (PT.compose exRelu exRelu) [3] = some [3] := by decide +kernel
example : PT.eval (PT.compose exRelu exRelu) [-2] = some [0] := by decide +kernel

end AV
