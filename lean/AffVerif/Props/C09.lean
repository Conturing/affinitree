import AffVerif.Proofs.PruneSound
import AffVerif.Proofs.RegionMachine
/-!
# C09 — reported regions agree with evaluation

`regionsT` is the reference for what `polyhedra()` reports (the correspondence check compares the machine and the
implementation against it under every skip schedule): every node with the closed half-spaces of its path.
`routeT t x` lists the nodes the evaluation of `x` passes through, with the same path bookkeeping.
Binary trees whose decisions are well-formed one-row predicates (`RouteOK`, `Bin`).

* `C09_on_path_in`, `C09_route_regions` — an input satisfies the reported conditions of every node on its route, and the
  route only mentions nodes with exactly the reported conditions;
* `C09_interior_routed`, `C09_sibling_interiors_disjoint` — a point strictly inside the half-space reported for an edge
  takes that edge, so the open half-spaces of the two labels are disjoint;
* `C09_skip_stream_items`, `C09_skip_stream_regions`, `C09_noskip_stream` — the stream with skips (`regionsSkipT`, what
  the judge compares the implementation's stream with) reports the nodes of the C13 reference traversal once each, in
  pre-order, each with the path conditions `regionsT` assigns to it, and is `regionsT` itself without skips;
* `C09_machine_run` — the `PolyhedraGen` machine (`DfsPre`, the stack of half-spaces cut back to the next node's depth,
  the half-space of the parent edge found by `parent()`) emits exactly that stream on every tree with pairwise distinct
  indices (C12's invariant), for every skip schedule, repeated skips included;
* `C09_terminals_reported`, `C09_terminal_interiors_disjoint`, `C09_terminals_cover` — the regions of the terminals
  (`termRegions`) are among the reported ones, have pairwise disjoint interiors (partial trees included), and cover the
  input space when no branch is missing.
-/
set_option linter.unusedSectionVars false
namespace AV
variable {α : Type} [Field α] [LinearOrder α] [IsStrictOrderedRing α]

mutual
/-- nodes visited by the evaluation of `x`, each with the half-spaces of its path -/
def PT.routeT : PT α → List α → List (Aff α) → List (Nat × List (Aff α))
  | .node i c ks, x, path =>
    (i, path) :: (if ks.allNone then [] else PKids.routeAt ks c.aff 0 (c.aff.label x) x path)
def PKids.routeAt : PKids α → Aff α → Nat → Nat → List α → List (Aff α) → List (Nat × List (Aff α))
  | .nil, _, _, _, _, _ => []
  | .cons none _, _, _, 0, _, _ => []
  | .cons (some t) _, a, l, 0, x, path => PT.routeT t x (path ++ [halfspace a l])
  | .cons _ r, a, l, n+1, x, path => PKids.routeAt r a (l+1) n x path
end

mutual
def PT.RouteOK : PT α → Prop
  | .node _ c ks => (ks.allNone = false → c.aff.WF ∧ c.aff.outdim ≤ 1) ∧ PKids.RouteOK ks
def PKids.RouteOK : PKids α → Prop
  | .nil => True
  | .cons none r => PKids.RouteOK r
  | .cons (some t) r => PT.RouteOK t ∧ PKids.RouteOK r
end

theorem route_inPath_both (x : List α) :
    (∀ (t : PT α) (path : List (Aff α)), InPath path x → PT.RouteOK t → ∀ e ∈ PT.routeT t x path, InPath e.2 x) ∧
    (∀ (ks : PKids α) (a : Aff α) (l n lab : Nat) (path : List (Aff α)), InPath path x → PKids.RouteOK ks →
      lab = l + n → Poly.Mem (halfspace a lab) x → ∀ e ∈ PKids.routeAt ks a l n x path, InPath e.2 x) := by
  refine ITree.ind ?_ (fun _ _ _ _ _ _ _ _ _ _ he => nomatch he) ?_ ?_
  · intro i c ks ih path hx hok e he
    rcases List.mem_cons.mp he with rfl | he
    · exact hx
    · split at he
      · cases he
      · rename_i hall
        have hd := hok.1 (Bool.eq_false_iff.mpr hall)
        exact ih c.aff 0 _ _ path hx hok.2 (Nat.zero_add _).symm (mem_halfspace_label c.aff x hd.1 hd.2) e he
  · intro r ih a l n lab path hx hok hl hmem
    cases n with
    | zero => exact fun e he => nomatch he
    | succ n => exact ih a (l+1) n lab path hx hok (hl.trans (Nat.succ_add_eq_add_succ l n).symm) hmem
  · intro t r iht ihr a l n lab path hx hok hl hmem
    cases n with
    | zero => cases hl; exact iht _ (hx.concat hmem) hok.1
    | succ n => exact ihr a (l+1) n lab path hx hok.2 (hl.trans (Nat.succ_add_eq_add_succ l n).symm) hmem

theorem PKids.routeAt_inPath (ks : PKids α) (a : Aff α) (l n lab : Nat) (x : List α) (path : List (Aff α))
    (hx : InPath path x) (hok : PKids.RouteOK ks) (hl : lab = l + n) (hmem : Poly.Mem (halfspace a lab) x) :
    ∀ e ∈ PKids.routeAt ks a l n x path, InPath e.2 x := (route_inPath_both x).2 ks a l n lab path hx hok hl hmem

theorem C09_on_path_in (t : PT α) (x : List α) (hok : PT.RouteOK t) :
    ∀ e ∈ PT.routeT t x [], InPath e.2 x :=
  (route_inPath_both x).1 t [] (fun _ hh => nomatch hh) hok

theorem route_sub_regions_both (x : List α) :
    (∀ (t : PT α) (path : List (Aff α)) (d r : Nat),
      ∀ e ∈ PT.routeT t x path, e ∈ (regionsT t d r path).map (fun q => (q.1.idx, q.2))) ∧
    (∀ (ks : PKids α) (a : Aff α) (l n : Nat) (path : List (Aff α)) (d : Nat),
      ∀ e ∈ PKids.routeAt ks a l n x path, e ∈ (regionsK ks a l d path).map (fun q => (q.1.idx, q.2))) := by
  refine ITree.ind ?_ (fun _ _ _ _ _ _ he => nomatch he) ?_ ?_
  · intro i c ks ih path d r e he
    rw [regionsT, List.map_cons]
    rcases List.mem_cons.mp he with rfl | he
    · exact List.mem_cons_self
    · split at he
      · cases he
      · exact List.mem_cons_of_mem _ (ih c.aff 0 _ path (d+1) e he)
  · intro r ih a l n path d e he
    cases n with
    | zero => cases he
    | succ n => exact ih a (l+1) n path d e he
  · intro t r iht ihr a l n path d e he
    rw [regionsK, List.map_append]
    cases n with
    | zero => exact List.mem_append_left _ (iht _ d r.count e he)
    | succ n => exact List.mem_append_right _ (ihr a (l+1) n path d e he)

theorem C09_route_regions (t : PT α) (x : List α) :
    ∀ e ∈ PT.routeT t x [], e ∈ (regionsT t 0 0 []).map (fun q => (q.1.idx, q.2)) :=
  (route_sub_regions_both x).1 t [] 0 0

theorem C09_interior_routed (d : Aff α) (x : List α) (l : Nat) (hl : l = 0 ∨ l = 1) (hwf : d.WF) (hrows : d.outdim = 1)
    (hstrict : ∀ rb ∈ (halfspace d l).rows, dot rb.1 x < rb.2) : d.label x = l := by
  obtain ⟨mat, bias, n⟩ := d
  obtain ⟨r, rfl⟩ := List.length_eq_one_iff.mp hrows
  obtain ⟨b, rfl⟩ := List.length_eq_one_iff.mp hwf.2
  rw [label_oneRow]
  rcases hl with rfl | rfl
  · -- the half-space of label 0 is the negated row
    exact if_neg fun hle => not_lt.mpr (le_of_le_of_eq (OF.neg_le_neg_iff.mpr hle) (dot_vneg_left r x).symm)
      (hstrict (vneg r, -b) List.mem_cons_self)
  · exact if_pos (hstrict (r, b) List.mem_cons_self).le

theorem regionsSkipK_items (sk : Nat → Nat) (ks : PKids α) (a : Aff α) (l d : Nat) (path : List (Aff α)) (k : Nat) :
    (regionsSkipK sk ks a l d path k).1.map (·.1) = (refDfsK sk d ks k).1 ∧
    (regionsSkipK sk ks a l d path k).2 = (refDfsK sk d ks k).2 := (regionsSkip_items_both sk).2 ks a l d path k

theorem C09_skip_stream_items (sk : Nat → Nat) (t : PT α) :
    (regionsSkipT sk t 0 0 [] 0).1.map (·.1) = (refDfsT sk 0 t 0 0).1 :=
  ((regionsSkip_items_both sk).1 t 0 0 [] 0).1

theorem regionsSkipK_sub (sk : Nat → Nat) (ks : PKids α) (a : Aff α) (l d : Nat) (path : List (Aff α)) (k : Nat) :
    ∀ e ∈ (regionsSkipK sk ks a l d path k).1, e ∈ regionsK ks a l d path := (regionsSkip_sub_both sk).2 ks a l d path k

theorem C09_skip_stream_regions (sk : Nat → Nat) (t : PT α) :
    ∀ e ∈ (regionsSkipT sk t 0 0 [] 0).1, e ∈ regionsT t 0 0 [] :=
  (regionsSkip_sub_both sk).1 t 0 0 [] 0

theorem regionsSkipK_noskip (ks : PKids α) (a : Aff α) (l d : Nat) (path : List (Aff α)) (k : Nat) :
    (regionsSkipK (fun _ => 0) ks a l d path k).1 = regionsK ks a l d path := regionsSkip_noskip_both.2 ks a l d path k

theorem C09_noskip_stream (t : PT α) : (regionsSkipT (fun _ => 0) t 0 0 [] 0).1 = regionsT t 0 0 [] :=
  regionsSkip_noskip_both.1 t 0 0 [] 0

theorem C09_sibling_interiors_disjoint (d : Aff α) (x : List α) (hwf : d.WF) (hrows : d.outdim = 1)
    (h0 : ∀ rb ∈ (halfspace d 0).rows, dot rb.1 x < rb.2) (h1 : ∀ rb ∈ (halfspace d 1).rows, dot rb.1 x < rb.2) :
    False :=
  Nat.zero_ne_one ((C09_interior_routed d x 0 (Or.inl rfl) hwf hrows h0).symm.trans
    (C09_interior_routed d x 1 (Or.inr rfl) hwf hrows h1))

theorem C09_machine_run (whole : PT α) (hnd : whole.indices.Nodup) (sk : Nat → Nat) :
    PGen.run whole sk whole.size (PGen.new whole) 0 = (regionsSkipT sk whole 0 0 [] 0).1 := by
  have hinv : RInv whole [] 0 [(0, whole, 0, [])] := by
    refine ⟨rfl, List.pairwise_singleton _ _, fun e he => ?_⟩
    cases List.mem_singleton.mp he
    exact ⟨⟨none, ITree.subs_head whole none⟩, fun _ => ⟨rfl, (whole.at_loc hnd _ (whole.locs_head [])).2.2⟩,
      fun d' hd' => nomatch hd'⟩
  exact (pgen_run_eq_ref whole hnd sk whole.size [(0, whole, 0, [])] (PGen.new whole) 0 rfl hinv
    (Nat.le_of_eq (Nat.add_zero _))).trans (List.append_nil _)

mutual
/-- the terminals of a tree, left to right, each with the half-spaces of its path -/
def PT.termRegions : PT α → List (Aff α) → List (Nat × List (Aff α))
  | .node i c ks, path => if ks.allNone then [(i, path)] else PKids.termRegions ks c.aff 0 path
def PKids.termRegions : PKids α → Aff α → Nat → List (Aff α) → List (Nat × List (Aff α))
  | .nil, _, _, _ => []
  | .cons none r, a, l, path => PKids.termRegions r a (l+1) path
  | .cons (some t) r, a, l, path => PT.termRegions t (path ++ [halfspace a l]) ++ PKids.termRegions r a (l+1) path
end

theorem termRegions_sub_both :
    (∀ (t : PT α) (path : List (Aff α)) (d r : Nat),
      ∀ e ∈ PT.termRegions t path, e ∈ (regionsT t d r path).map (fun q => (q.1.idx, q.2))) ∧
    (∀ (ks : PKids α) (a : Aff α) (l : Nat) (path : List (Aff α)) (d : Nat),
      ∀ e ∈ PKids.termRegions ks a l path, e ∈ (regionsK ks a l d path).map (fun q => (q.1.idx, q.2))) := by
  refine ITree.ind ?_ (fun _ _ _ _ _ he => nomatch he) ?_ ?_
  · intro i c ks ih path d r e he
    rw [PT.termRegions] at he
    rw [regionsT, List.map_cons]
    split at he
    · exact List.mem_cons.mpr (Or.inl (List.mem_singleton.mp he))
    · exact List.mem_cons_of_mem _ (ih c.aff 0 path (d+1) e he)
  · intro r ih a l path d; exact ih a (l+1) path d
  · intro t r iht ihr a l path d e he
    rw [regionsK, List.map_append]
    exact (List.mem_append.mp he).elim (fun h => List.mem_append_left _ (iht _ d r.count e h))
      (fun h => List.mem_append_right _ (ihr a (l+1) path d e h))

theorem PKids.termRegions_sub (ks : PKids α) (a : Aff α) (l : Nat) (path : List (Aff α)) (d : Nat) :
    ∀ e ∈ PKids.termRegions ks a l path, e ∈ (regionsK ks a l d path).map (fun q => (q.1.idx, q.2)) :=
  termRegions_sub_both.2 ks a l path d

mutual
/-- binary trees with one-row decisions (what `polyhedra()` supports) -/
def PT.Bin : PT α → Prop
  | .node _ c ks => (ks.allNone = false → c.aff.WF ∧ c.aff.outdim = 1 ∧ ks.length = 2) ∧ PKids.Bin ks
def PKids.Bin : PKids α → Prop
  | .nil => True
  | .cons none r => PKids.Bin r
  | .cons (some t) r => PT.Bin t ∧ PKids.Bin r
end

mutual
def PT.NoMissing : PT α → Prop
  | .node _ _ ks => ks.allNone = true ∨ PKids.NoMissing ks
def PKids.NoMissing : PKids α → Prop
  | .nil => True
  | .cons none _ => False
  | .cons (some t) r => PT.NoMissing t ∧ PKids.NoMissing r
end

def StrictIn (path : List (Aff α)) (x : List α) : Prop := ∀ h ∈ path, ∀ rb ∈ h.rows, dot rb.1 x < rb.2

theorem cover_both (x : List α) :
    (∀ (t : PT α) (path : List (Aff α)), InPath path x → PT.Bin t → PT.NoMissing t →
      ∃ e ∈ PT.termRegions t path, InPath e.2 x) ∧
    (∀ (ks : PKids α) (a : Aff α) (l n : Nat) (path : List (Aff α)), InPath path x →
      Poly.Mem (halfspace a (l+n)) x → PKids.Bin ks → PKids.NoMissing ks → n < ks.length →
      ∃ e ∈ PKids.termRegions ks a l path, InPath e.2 x) := by
  refine ITree.ind ?_ (fun _ _ _ _ _ _ _ _ hlen => nomatch hlen) (fun _ _ _ _ _ _ _ _ _ hf => hf.elim) ?_
  · intro i c ks ih path hx hb hf
    rw [PT.termRegions]
    cases hall : ks.allNone with
    | true => exact ⟨_, List.mem_singleton.mpr rfl, hx⟩
    | false =>
      obtain ⟨hwf, hrows, hlen⟩ := hb.1 hall
      rw [if_neg Bool.false_ne_true]
      exact ih c.aff 0 (c.aff.label x) path hx (by rw [Nat.zero_add]; exact mem_halfspace_label c.aff x hwf (Nat.le_of_eq hrows))
        hb.2 (hf.resolve_left (by rw [hall]; exact Bool.false_ne_true)) (hlen ▸ Nat.lt_succ_of_le (label_le_one c.aff x (Nat.le_of_eq hrows)))
  · intro t r iht ihr a l n path hx hmem hb hf hlen
    rw [PKids.termRegions]
    cases n with
    | zero =>
      obtain ⟨e, he, hin⟩ := iht _ (hx.concat hmem) hb.1 hf.1
      exact ⟨e, List.mem_append_left _ he, hin⟩
    | succ n =>
      obtain ⟨e, he, hin⟩ := ihr a (l+1) n path hx (by rw [Nat.add_assoc, Nat.add_comm 1]; exact hmem) hb.2 hf.2
        (Nat.lt_of_succ_lt_succ hlen)
      exact ⟨e, List.mem_append_right _ he, hin⟩

theorem PKids.coverAt (ks : PKids α) (a : Aff α) (l n : Nat) (x : List α) (path : List (Aff α))
    (hx : InPath path x) (hmem : Poly.Mem (halfspace a (l+n)) x) (hb : PKids.Bin ks) (hf : PKids.NoMissing ks)
    (hlen : n < ks.length) : ∃ e ∈ PKids.termRegions ks a l path, InPath e.2 x :=
  (cover_both x).2 ks a l n path hx hmem hb hf hlen

theorem StrictIn.of_prefix {p q : List (Aff α)} {x : List α} (h : StrictIn q x) (hp : p <+: q) : StrictIn p x := by
  obtain ⟨r, rfl⟩ := hp
  intro a ha
  exact h a (List.mem_append.mpr (Or.inl ha))

theorem term_prefix_both :
    (∀ (t : PT α) (path : List (Aff α)), ∀ e ∈ PT.termRegions t path, path <+: e.2) ∧
    (∀ (ks : PKids α) (a : Aff α) (l : Nat) (path : List (Aff α)), ∀ e ∈ PKids.termRegions ks a l path,
      ∃ l', l ≤ l' ∧ l' < l + ks.length ∧ (path ++ [halfspace a l']) <+: e.2) := by
  refine ITree.ind ?_ (fun _ _ _ _ he => nomatch he) ?_ ?_
  · intro i c ks ih path e he
    rw [PT.termRegions] at he
    split at he
    · cases List.mem_singleton.mp he; exact List.prefix_refl _
    · obtain ⟨l', _, _, hp⟩ := ih c.aff 0 path e he
      exact (List.prefix_append _ _).trans hp
  · intro r ih a l path e he
    obtain ⟨l', h1, h2, h3⟩ := ih a (l+1) path e he
    exact ⟨l', Nat.le_of_succ_le h1, by rw [IKids.length, ← Nat.add_assoc, Nat.add_right_comm]; exact h2, h3⟩
  · intro t r iht ihr a l path e he
    rcases List.mem_append.mp he with he | he
    · exact ⟨l, Nat.le_refl _, Nat.lt_add_of_pos_right (Nat.succ_pos _), iht _ e he⟩
    · obtain ⟨l', h1, h2, h3⟩ := ihr a (l+1) path e he
      exact ⟨l', Nat.le_of_succ_le h1, by rw [IKids.length, ← Nat.add_assoc, Nat.add_right_comm]; exact h2, h3⟩

theorem term_pairwise_both :
    (∀ (t : PT α) (path : List (Aff α)), PT.Bin t →
      (PT.termRegions t path).Pairwise (fun e f => ∀ x, StrictIn e.2 x → StrictIn f.2 x → False)) ∧
    (∀ (ks : PKids α) (a : Aff α) (l : Nat) (path : List (Aff α)), a.WF → a.outdim = 1 → l + ks.length ≤ 2 →
      PKids.Bin ks →
      (PKids.termRegions ks a l path).Pairwise (fun e f => ∀ x, StrictIn e.2 x → StrictIn f.2 x → False)) := by
  refine ITree.ind ?_ (fun _ _ _ _ _ _ _ => List.Pairwise.nil) ?_ ?_
  · intro i c ks ih path hb
    rw [PT.termRegions]
    cases hall : ks.allNone with
    | true => exact List.pairwise_singleton _ _
    | false =>
      obtain ⟨hwf, hrows, hlen⟩ := hb.1 hall
      rw [if_neg Bool.false_ne_true]
      exact ih c.aff 0 path hwf hrows (by rw [Nat.zero_add, hlen]) hb.2
  · intro r ih a l path hwf hrows hl hb
    exact ih a (l+1) path hwf hrows (Nat.le_trans (Nat.le_of_eq (Nat.succ_add_eq_add_succ l r.length)) hl) hb
  · intro t r iht ihr a l path hwf hrows hl hb
    have hl1 : l + 1 + r.length ≤ 2 := Nat.le_trans (Nat.le_of_eq (Nat.succ_add_eq_add_succ l r.length)) hl
    rw [PKids.termRegions, List.pairwise_append]
    refine ⟨iht _ hb.1, ihr a (l+1) path hwf hrows hl1 hb.2, fun e he f hf x se sf => ?_⟩
    -- `e` lies behind the edge with label `l`, `f` behind a later one, `l'`: a point strictly inside both is routed both ways
    obtain ⟨l', h1, h2, hq⟩ := term_prefix_both.2 r a (l+1) path f hf
    have hl' : l' < 2 := Nat.lt_of_lt_of_le h2 hl1
    have two : ∀ j, j < 2 → j = 0 ∨ j = 1 := fun j hj => Nat.le_one_iff_eq_zero_or_eq_one.mp (Nat.le_of_lt_succ hj)
    have el := C09_interior_routed a x l (two l (Nat.lt_trans h1 hl')) hwf hrows
      (se.of_prefix (term_prefix_both.1 t _ e he) _ (List.mem_append_right _ List.mem_cons_self))
    have el' := C09_interior_routed a x l' (two l' hl') hwf hrows
      (sf.of_prefix hq _ (List.mem_append_right _ List.mem_cons_self))
    exact Nat.ne_of_lt h1 (el.symm.trans el')

theorem PKids.term_pairwise (ks : PKids α) (a : Aff α) (l : Nat) (path : List (Aff α)) (hwf : a.WF)
    (hrows : a.outdim = 1) (hl : l + ks.length ≤ 2) (hb : PKids.Bin ks) :
    (PKids.termRegions ks a l path).Pairwise (fun e f => ∀ x, StrictIn e.2 x → StrictIn f.2 x → False) :=
  term_pairwise_both.2 ks a l path hwf hrows hl hb

theorem C09_terminals_reported (t : PT α) :
    ∀ e ∈ PT.termRegions t [], e ∈ (regionsT t 0 0 []).map (fun q => (q.1.idx, q.2)) :=
  termRegions_sub_both.1 t [] 0 0

theorem C09_terminals_cover (t : PT α) (hb : PT.Bin t) (hf : PT.NoMissing t) (x : List α) :
    ∃ e ∈ PT.termRegions t [], InPath e.2 x :=
  (cover_both x).1 t [] (fun _ hh => nomatch hh) hb hf

theorem C09_terminal_interiors_disjoint (t : PT α) (hb : PT.Bin t) :
    (PT.termRegions t []).Pairwise (fun e f => ∀ x, StrictIn e.2 x → StrictIn f.2 x → False) :=
  term_pairwise_both.1 t [] hb

/-- non-vacuity: `x ≤ 0 ? (y ≤ 1 ? · : ·) : ·` is binary, has no missing branch and three terminals -/
def exCover : PT Rat :=
  .node 0 ⟨⟨[[1, 0]], [0], 2⟩, .indeterminate⟩
    (.cons (some (.node 1 ⟨⟨[[1, 0], [0, 1]], [0, 0], 2⟩, .indeterminate⟩ (.cons none (.cons none .nil))))
      (.cons (some (.node 2 ⟨⟨[[0, 1]], [1], 2⟩, .indeterminate⟩
        (.cons (some (.node 3 ⟨⟨[[1, 0], [0, 1]], [0, 0], 2⟩, .indeterminate⟩ (.cons none (.cons none .nil))))
          (.cons (some (.node 4 ⟨⟨[[1, 0], [0, 1]], [0, 0], 2⟩, .indeterminate⟩ (.cons none (.cons none .nil)))) .nil)))) .nil))

example : PT.Bin exCover ∧ PT.NoMissing exCover ∧ (PT.termRegions exCover []).length = 3 := by
  refine ⟨?_, ?_, by decide +kernel⟩
  · simp only [exCover, PT.Bin, PKids.Bin, IKids.allNone, Aff.WF, Aff.outdim, IKids.length]
    decide
  · simp [exCover, PT.NoMissing, PKids.NoMissing, IKids.allNone]

end AV
