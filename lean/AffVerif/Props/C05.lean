import AffVerif.Props.C04
import AffVerif.Props.C03
import AffVerif.Proofs.MirrorSound
import AffVerif.Proofs.CachePlant
/-!
# C05 — cached feasibility data stays sound under every operation history

The cache invariant of a tree (`CacheOK`):

* `Shaped 2 n m` — the tree is well formed (C04), which the sweep needs;
* `InfSound []` — a node marked `Infeasible` has an empty closed path region;
* `WitSound tol []` — every witness stored at a node satisfies all path conditions from the root to that node, within
  the containment tolerance `tol` of the code (`contains`, 1e-8);
* `InfOnly` — a node marked `Infeasible` has no sibling (structural; needed for `reduce`).

Step theorems for every operation of the history alphabet and their closure under histories of any length. The
hypotheses on the oracles are exactly the two contracts the property names:

* `InfeasibleSound lp` — the LP backend answers *infeasible* only for empty polytopes (C10; everything else it
  answers may be wrong: errors, unbounded, bogus witnesses — the sweep re-checks every point with `contains`);
* `MirrorSound tol mirror` — the points `mirror_points` returns lie in the polytope they were asked for (the third
  clause of C05; the judge checks it on every stored witness of every replayed history).

The pruned composition needs no hypothesis: copied nodes start `Indeterminate` whatever the filter answered.
-/
set_option linter.unusedSectionVars false
namespace AV
variable {α : Type} [Field α] [LinearOrder α] [IsStrictOrderedRing α]

def CacheOK (tol : α) (n m : Nat) (t : PT α) : Prop :=
  PT.Shaped 2 n m t ∧ PT.InfSound [] t ∧ PT.WitSound tol [] t ∧ PT.InfOnly t

theorem C05_fresh (tol : α) (n m : Nat) (t : PT α) (hs : PT.Shaped 2 n m t) (hf : PT.Fresh t) : CacheOK tol n m t :=
  ⟨hs, PT.infSound_of_fresh t [] hf, (PT.witSound_iff tol [] t).2 (PT.stSound_of_fresh _ (stWit_indeterminate tol) t [] hf),
    PT.infOnly_of_fresh t hf⟩

theorem C05_apply_func (tol : α) (n : Nat) (t : PT α) (a : Aff α) (ha : a.WF) (h : CacheOK tol n a.indim t) :
    CacheOK tol n a.outdim (PT.applyFunc t a) :=
  ⟨C04_apply_func t a 2 n ha h.1, PT.infSound_mapTerminals _ t [] h.2.1,
    PT.witSound_of_stSound (PT.stSound_mapTerminals _ _ t []) h.2.2.1, PT.infOnly_mapTerminals _ t h.2.2.2⟩

/-- negation and the mixed tree/affine operators -/
theorem C05_scalar_op (tol : α) (φ : Aff α → Aff α) (n m : Nat) (t : PT α)
    (hφ : ∀ a : Aff α, a.WF → a.indim = n → a.outdim = m → (φ a).WF ∧ (φ a).indim = n ∧ (φ a).outdim = m)
    (h : CacheOK tol n m t) : CacheOK tol n m (PT.mapTerminals φ t) :=
  ⟨C04_scalar_op φ t 2 n m hφ h.1, PT.infSound_mapTerminals φ t [] h.2.1,
    PT.witSound_of_stSound (PT.stSound_mapTerminals _ φ t []) h.2.2.1, PT.infOnly_mapTerminals φ t h.2.2.2⟩

/-- un-pruned composition: the operand's cached states are not copied (whatever they are) -/
theorem C05_compose (tol : α) (n m p : Nat) (f g : PT α) (c : Nat) (h : CacheOK tol n m f) (hg : PT.Shaped 2 m p g) :
    CacheOK tol n p (PT.composeS Schema.compose f g c).1 :=
  ⟨C04_compose f g c 2 n m p h.1 hg, PT.infSound_composeS _ f g c [] h.2.1,
    PT.witSound_of_stSound (PT.stSound_composeS _ (stWit_indeterminate tol) _ f g c []) h.2.2.1,
    (PKids.infOnly_composeS _ (.cons (some f) .nil) g c ⟨h.2.2.2, trivial⟩).1⟩

theorem C05_compose_prune {σ : Type} (tol : α) (ex : Explore σ α) (n m p : Nat) (f g : PT α) (s : σ) (c : Nat)
    (h : CacheOK tol n m f) (hg : PT.Shaped 2 m p g) :
    CacheOK tol n p (PT.composeP Schema.compose ex n [] f g s c).1 :=
  ⟨C04_compose_prune ex f g s c 2 n m p [] h.1 hg, PT.infSound_composeP _ ex n [] f g s c h.2.1,
    PT.witSound_of_stSound (PT.stSound_composeP _ (stWit_indeterminate tol) _ ex n [] f g s c) h.2.2.1,
    PT.infOnly_composeP _ ex n [] f g s c h.2.2.2⟩

theorem C05_arith {σ : Type} (tol : α) (op : ArithOp) (ex : Explore σ α) (n m : Nat) (f g : PT α) (s : σ) (c : Nat)
    (h : CacheOK tol n m f) (hg : PT.Shaped 2 n m g) :
    CacheOK tol n m (PT.composeP (Schema.arith op.onAff) ex n [] f g s c).1 :=
  ⟨C04_arith_prune op ex f g s c 2 n m [] h.1 hg, PT.infSound_composeP _ ex n [] f g s c h.2.1,
    PT.witSound_of_stSound (PT.stSound_composeP _ (stWit_indeterminate tol) _ ex n [] f g s c) h.2.2.1,
    PT.infOnly_composeP _ ex n [] f g s c h.2.2.2⟩

/-- `infeasible_elimination`, including `forward_if_redundant` and repeated runs on cached states -/
theorem C05_elim {σ : Type} (tol : α) (O : Oracles σ α) (hlp : InfeasibleSound O.lp)
    (hm : MirrorSound tol O.mirror) (n m : Nat) (t : PT α) (s : σ) (h : CacheOK tol n m t) :
    CacheOK tol n m (infeasibleElimination tol O n t s).1 := by
  obtain ⟨hs, hi, hw, ho⟩ := h
  have hok := PT.elimOK_of_shaped t n m hs
  exact ⟨C04_elim tol O n m t s hs, PT.infSound_infeasibleElimination tol O hlp n t s hok hi,
    PT.witSound_of_stSound
      (PT.stSound_infeasibleElimination _ (stWit_pred tol).toFwd tol O n
        (fun _ _ _ _ _ _ hd => hd.stWit hm) t s hok) hw,
    (PT.infOnly_elim_both tol O n).1 t true [] t.val.state s ho⟩

theorem C05_reduce (tol : α) (n m : Nat) (t : PT α) (h : CacheOK tol n m t) : CacheOK tol n m (PT.reduce t) :=
  ⟨C04_reduce t 2 n m h.1, PT.infSound_reduce t [] h.2.1 h.2.2.2,
    PT.witSound_of_stSound (PT.stSound_reduce _ (stWit_pred tol) t []) h.2.2.1, PT.infOnly_reduce t h.2.2.2⟩

/-- the user appends points to the public witness cache of node `idx` -/
theorem C05_plant (tol : α) (n m : Nat) (t : PT α) (idx : Nat) (pts : List (List α)) (h : CacheOK tol n m t)
    (hp : ∀ q ∈ PT.hitPaths t idx [], ∀ w ∈ pts, InPathTol tol q w) : CacheOK tol n m (PT.plant t idx pts) :=
  ⟨(PKids.shaped_plant pts 2 n m (.cons (some t) .nil) idx ⟨h.1, trivial⟩).1,
    PT.infSound_of_stSound (PT.stSound_plant StInf stInf_plant pts [] t idx) h.2.1,
    PT.witSound_of_stSound ((PT.stSound_plant_at_both _ pts idx).1 t [] fun q hq => stWit_plant tol q pts (hp q hq)) h.2.2.1,
    (PKids.infOnly_plant pts (.cons (some t) .nil) idx ⟨h.2.2.2, trivial⟩).1⟩

/-- one step of a history; the oracles of `elim` satisfy the two contracts, those of the pruned steps are arbitrary -/
inductive CStep (tol : α) (n : Nat) : Nat → PT α → Nat → PT α → Prop where
  | applyFunc (m : Nat) (t : PT α) (a : Aff α) (ha : a.WF) (hm : a.indim = m) :
      CStep tol n m t a.outdim (PT.applyFunc t a)
  | scalar (m : Nat) (t : PT α) (φ : Aff α → Aff α)
      (hφ : ∀ a : Aff α, a.WF → a.indim = n → a.outdim = m → (φ a).WF ∧ (φ a).indim = n ∧ (φ a).outdim = m) :
      CStep tol n m t m (PT.mapTerminals φ t)
  | compose (m p : Nat) (t g : PT α) (c : Nat) (hg : PT.Shaped 2 m p g) :
      CStep tol n m t p (PT.composeS Schema.compose t g c).1
  | composePrune {σ : Type} (m p : Nat) (t g : PT α) (ex : Explore σ α) (s : σ) (c : Nat) (hg : PT.Shaped 2 m p g) :
      CStep tol n m t p (PT.composeP Schema.compose ex n [] t g s c).1
  | arith {σ : Type} (m : Nat) (t g : PT α) (op : ArithOp) (ex : Explore σ α) (s : σ) (c : Nat)
      (hg : PT.Shaped 2 n m g) : CStep tol n m t m (PT.composeP (Schema.arith op.onAff) ex n [] t g s c).1
  | elim {σ : Type} (m : Nat) (t : PT α) (O : Oracles σ α) (s : σ) (hlp : InfeasibleSound O.lp)
      (hmi : MirrorSound tol O.mirror) : CStep tol n m t m (infeasibleElimination tol O n t s).1
  | reduce (m : Nat) (t : PT α) : CStep tol n m t m (PT.reduce t)
  | plant (m : Nat) (t : PT α) (idx : Nat) (pts : List (List α))
      (hp : ∀ q ∈ PT.hitPaths t idx [], ∀ w ∈ pts, InPathTol tol q w) : CStep tol n m t m (PT.plant t idx pts)

theorem C05_step (tol : α) (n m m' : Nat) (t t' : PT α) (h : CacheOK tol n m t) (st : CStep tol n m t m' t') :
    CacheOK tol n m' t' := by
  cases st with
  | applyFunc _ _ a ha hm => subst hm; exact C05_apply_func tol n t a ha h
  | scalar _ _ φ hφ => exact C05_scalar_op tol φ n m t hφ h
  | compose _ _ _ g c hg => exact C05_compose tol n m m' t g c h hg
  | composePrune _ _ _ g ex s c hg => exact C05_compose_prune tol ex n m m' t g s c h hg
  | arith _ _ g op ex s c hg => exact C05_arith tol op ex n m t g s c h hg
  | elim _ _ O s hlp hmi => exact C05_elim tol O hlp hmi n m t s h
  | reduce => exact C05_reduce tol n m t h
  | plant _ _ idx pts hp => exact C05_plant tol n m t idx pts h hp

inductive CSteps (tol : α) (n : Nat) : Nat → PT α → Nat → PT α → Prop where
  | nil (m : Nat) (t : PT α) : CSteps tol n m t m t
  | cons (m m' m'' : Nat) (t t' t'' : PT α) : CStep tol n m t m' t' → CSteps tol n m' t' m'' t'' → CSteps tol n m t m'' t''

theorem C05_history (tol : α) (n m m' : Nat) (t t' : PT α) (h : CacheOK tol n m t) (hs : CSteps tol n m t m' t') :
    CacheOK tol n m' t' := by
  induction hs with
  | nil => exact h
  | cons m m' m'' t t' t'' st _ ih => exact ih (C05_step tol n m m' t t' h st)

/-- what later operations rely on (C03): on a tree with sound caches the sweep and the pruned composition keep the
    function — the hypothesis `InfSound []` of `C03_elim_sound` / `C03_compose_prune` holds in every reachable state -/
theorem C05_caches_usable (tol : α) (n m m' : Nat) (t t' : PT α) (h : CacheOK tol n m t)
    (hs : CSteps tol n m t m' t') : PT.Shaped 2 n m' t' ∧ PT.InfSound [] t' :=
  let r := C05_history tol n m m' t t' h hs
  ⟨r.1, r.2.1⟩

/-- "later operations that trust these caches stay sound": after any history, a further sweep (which skips what the
    caches mark) still represents the same function at every input -/
theorem C05_trusting_sweep_sound {σ : Type} (tol : α) (n m m' : Nat) (t t' : PT α) (h : CacheOK tol n m t)
    (hs : CSteps tol n m t m' t') (O : Oracles σ α) (hlp : InfeasibleSound O.lp) (s : σ) (x : List α) :
    PT.eval (infeasibleElimination tol O n t' s).1 x = PT.eval t' x :=
  let r := C05_history tol n m m' t t' h hs
  C03_elim_sound tol O hlp n m' t' s x r.1 r.2.1

/-- `mirror_points` (model of the code's loop, any number of rounds, candidates and dimensions; `norms` are the row
    norms `normalize` divides by): every returned point lies in the polytope it was asked for -/
theorem C05_mirror_points_sound (eps fac : α) (heps : 0 ≤ eps) (p : Aff α) (norms : List (Option α))
    (hlen : norms.length = p.rows.length) (hpos : ∀ o ∈ norms, ∀ k, o = some k → 0 < k)
    (pts : List (List α)) (n : Nat) (res : List (List α)) (j : Nat)
    (h : mirrorPoints eps fac p norms pts n = some (res, j)) :
    res ≠ [] ∧ j < n ∧ ∀ x ∈ res, Poly.Mem p x ∧ ∀ tol, 0 ≤ tol → Poly.containsTol tol p x = true := by
  unfold mirrorPoints at h
  obtain ⟨hne, hin, _, hj⟩ := mirrorLoop_inside eps fac _ pts n 0 res j h
  refine ⟨hne, by rwa [Nat.zero_add] at hj, fun x hx => ?_⟩
  have hmem : Poly.Mem p x := (mem_scaleRows p norms hlen hpos x).mp fun rb hrb =>
    OF.sub_nonneg.1 (le_trans heps (mirrorInside_rows eps _ x (hin x hx) rb hrb))
  exact ⟨hmem, fun tol htol => Poly.containsTol_of_mem htol hmem⟩

def modelMirror {σ : Type} (eps fac : α) (norms : Aff α → List (Option α)) : MirrorOracle σ α :=
  fun s _ poly ws k => ((mirrorPoints eps fac poly (norms poly) ws k).map (·.1), s)

theorem modelMirror_some {σ : Type} (eps fac : α) (norms : Aff α → List (Option α)) (s s' : σ) (node : Nat)
    (poly : Aff α) (ws pts : List (List α)) (k : Nat) (h : modelMirror eps fac norms s node poly ws k = (some pts, s')) :
    ∃ j, mirrorPoints eps fac poly (norms poly) ws k = some (pts, j) := by
  unfold modelMirror at h
  simp only [Prod.mk.injEq, Option.map_eq_some_iff] at h
  obtain ⟨⟨⟨res, j⟩, hm, rfl⟩, _⟩ := h
  exact ⟨j, hm⟩

/-- the contract `MirrorSound` that `C05_elim` assumes of the heuristic holds for the model of the heuristic -/
theorem C05_model_mirror_sound {σ : Type} (tol eps fac : α) (htol : 0 ≤ tol) (heps : 0 ≤ eps)
    (norms : Aff α → List (Option α))
    (hn : ∀ p : Aff α, (norms p).length = p.rows.length ∧ ∀ o ∈ norms p, ∀ k, o = some k → 0 < k) :
    MirrorSound (σ := σ) tol (modelMirror eps fac norms) := by
  intro s node poly ws k pts s' h x hx
  obtain ⟨j, hm⟩ := modelMirror_some eps fac norms s s' node poly ws pts k h
  exact ((C05_mirror_points_sound eps fac heps poly (norms poly) (hn poly).1 (hn poly).2 ws k pts j hm).2.2 x hx).2 tol htol

/-- non-vacuity: a tree with a stored witness and a cached `Feasible` state satisfies the invariant -/
def exCache : PT Rat :=
  .node 0 ⟨⟨[[1]], [0], 1⟩, .indeterminate⟩
    (.cons (some (.node 1 ⟨⟨[[2]], [1], 1⟩, .witness [[1]]⟩ (IKids.empty 2)))
    (.cons (some (.node 2 ⟨⟨[[3]], [0], 1⟩, .feasible⟩ (IKids.empty 2))) .nil))

example : CacheOK (1/100 : Rat) 1 1 exCache := by
  have wf : ∀ a b : Rat, (⟨[[a]], [b], 1⟩ : Aff Rat).WF := fun a b => ⟨fun r hr => by cases List.mem_singleton.1 hr; rfl, rfl⟩
  refine ⟨⟨wf _ _, rfl, rfl, fun h => (nomatch h), fun _ => Nat.le_refl 2,
      ⟨wf _ _, rfl, rfl, fun _ => rfl, fun h => (nomatch h), trivial⟩,
      ⟨wf _ _, rfl, rfl, fun _ => rfl, fun h => (nomatch h), trivial⟩, trivial⟩,
    ⟨fun e => (nomatch e), ⟨fun e => (nomatch e), trivial⟩, ⟨fun e => (nomatch e), trivial⟩, trivial⟩,
    ⟨fun _ e => (nomatch e), ⟨fun ws e => ?_, trivial⟩, ⟨fun _ e => (nomatch e), trivial⟩, trivial⟩,
    fun _ => ⟨fun e => (nomatch e), fun e => (nomatch e), trivial⟩, ⟨fun h => (nomatch h), trivial⟩,
      ⟨fun h => (nomatch h), trivial⟩, trivial⟩
  -- the one stored witness, against the one half-space of its path
  cases e
  unfold InPathTol
  decide +kernel

/-- non-vacuity of `C05_plant`: the point 2 satisfies the path of node 1 (`x ≥ 0`), and planting it extends the list -/
example : ∀ q ∈ PT.hitPaths exCache 1 [], ∀ w ∈ [[(2 : Rat)]], InPathTol (1/100) q w := by
  unfold InPathTol
  decide +kernel
example : (PT.plant exCache 1 [[2]]).find? 1 =
    some (.node 1 ⟨⟨[[2]], [1], 1⟩, .witness [[1], [2]]⟩ (IKids.empty 2)) := rfl

theorem PKids.fresh_removeAxes (keep : List Nat) (ks : PKids α) : PKids.Fresh (Sch.removeAxesK keep ks) := by
  induction ks using IKids.nested_ind with
  | nil => trivial
  | none r ih => exact ih
  | some i c ks r ihk ih => exact ⟨⟨rfl, ihk⟩, ih⟩

/-- `remove_axes` resets every cached state (the dropped columns pin the removed coordinates to 0, so every path
    condition changes): whatever the caches were, the result satisfies the cache invariant -/
theorem C05_remove_axes (tol : α) (n m : Nat) (keep : List Nat) (t : PT α) (hs : PT.Shaped 2 n m t) :
    CacheOK tol keep.length m (Sch.removeAxes keep t) :=
  C05_fresh tol keep.length m _ (C04_remove_axes 2 n m keep t hs) (PKids.fresh_removeAxes keep (.cons (some t) .nil)).1

end AV
