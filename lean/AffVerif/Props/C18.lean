import AffVerif.Model.Arch
import AffVerif.Props.C01
/-!
# C18 — the architecture builder tracks shapes; accepted architectures distill; ranges split

* `C18_linear_accept_iff`, `C18_partial_accept_iff`, `C18_argmax_accept_iff` — a call is accepted exactly when it is
  dimension-compatible with the current shape.
* `C18_history` — for every sequence of builder calls, accepted or rejected: the current shape is the output
  dimension of the network built so far (`netDim`), every queued operator carries the output dimension of the
  network up to and including it (`RecordedOK`), and the queued layers are dimension-compatible (`Compat`).
* `C18_accepted_distills` — an accepted architecture (heads included) satisfies the hypothesis `LayersOK` of the
  distillation theorem (C01): no dimension assertion of the builder can fail, and the distilled tree is the network.
* `C18_extract_range`, `C18_split` — `extract_range(s,e)` is the slice of the queue with the shapes of the prefix
  networks; the two halves of a split chain (`head.current_shape = tail.input_shape`) and compose to the whole.
* `read_layers`: `C18_read_order_sorted/perm/index` — the entries are processed in a sorted permutation of the names
  of the file, by numeric prefix; `C18_read_step_relu/linear/ignored` — what one entry stands for;
  `C18_entry_name_plain/npy/rejected/chars` — the name pattern on characters. Left to the correspondence check per
  generated file: `String.toNat?` on concrete prefixes and the comparison of kinds with string literals.
-/
set_option linter.unusedSectionVars false
namespace AV
section Structure
variable {α : Type}

def layerOut (d : Nat) : Layer α → Nat
  | .linear a => a.outdim
  | .argmax => 1
  | .classChar _ => 1
  | _ => d

def netDim (d : Nat) (layers : List (Layer α)) : Nat := layers.foldl layerOut d

def Compat : Nat → List (Layer α) → Prop
  | _, [] => True
  | d, .linear a :: ls => a.indim = d ∧ Compat a.outdim ls
  | d, .relu i :: ls => i < d ∧ Compat d ls
  | d, .leakyRelu i _ :: ls => i < d ∧ Compat d ls
  | d, .hardTanh i :: ls => i < d ∧ Compat d ls
  | d, .hardSigmoid i :: ls => i < d ∧ Compat d ls
  | d, .argmax :: ls => 2 ≤ d ∧ Compat 1 ls
  | d, .classChar c :: ls => c < d ∧ Compat 1 ls

def RecordedOK : Nat → List (Layer α × Nat) → Prop
  | _, [] => True
  | d, (l, sh) :: r => sh = layerOut d l ∧ RecordedOK sh r

theorem netDim_append (d : Nat) (ls ls' : List (Layer α)) : netDim d (ls ++ ls') = netDim (netDim d ls) ls' :=
  List.foldl_append

theorem compat_append (d : Nat) (ls ls' : List (Layer α)) :
    Compat d (ls ++ ls') ↔ Compat d ls ∧ Compat (netDim d ls) ls' := by
  induction ls generalizing d with
  | nil => exact ⟨fun h => ⟨trivial, h⟩, fun h => h.2⟩
  | cons l ls ih => cases l <;> exact (and_congr_right fun _ => ih _).trans and_assoc.symm

theorem recordedOK_append (d : Nat) (ops ops' : List (Layer α × Nat)) :
    RecordedOK d (ops ++ ops') ↔ RecordedOK d ops ∧ RecordedOK (netDim d (ops.map (·.1))) ops' := by
  induction ops generalizing d with
  | nil => exact ⟨fun h => ⟨trivial, h⟩, fun h => h.2⟩
  | cons o ops ih =>
    -- the network after `o` starts at the recorded shape `o.2 = layerOut d o.1`
    refine (and_congr_right fun h1 => (ih o.2).trans ?_).trans and_assoc.symm
    rw [h1]; rfl

theorem ite_ok_iff {ε β : Type} (c : Prop) [Decidable c] (a : β) (e : ε) :
    (∃ b, (if c then Except.ok a else Except.error e) = .ok b) ↔ c := by
  by_cases h : c
  · rw [if_pos h]; exact ⟨fun _ => h, fun _ => ⟨a, rfl⟩⟩
  · rw [if_neg h]; exact ⟨fun ⟨_, hb⟩ => (nomatch hb), fun hc => absurd hc h⟩

inductive ActKind (α : Type) where
  | relu | leakyRelu (a : α) | hardTanh | hardSigmoid

def ActKind.mk : ActKind α → Nat → Layer α
  | .relu, i => .relu i
  | .leakyRelu a, i => .leakyRelu i a
  | .hardTanh, i => .hardTanh i
  | .hardSigmoid, i => .hardSigmoid i

inductive Call (α : Type) where
  | linear (a : Aff α)
  | partialAct (k : ActKind α) (idx : Nat)
  | fullAct (k : ActKind α)
  | argmax

/-- one builder call; a rejected call leaves the architecture as it was -/
def Arch.step (A : Arch α) : Call α → Arch α
  | .linear a => match A.linear a with | .ok A' => A' | .error _ => A
  | .partialAct k i => match A.partialAct k.mk i with | .ok A' => A' | .error _ => A
  | .fullAct k => A.fullAct k.mk
  | .argmax => match A.argmax with | .ok A' => A' | .error _ => A

structure Arch.Inv (A : Arch α) : Prop where
  shape : A.currentShape = netDim A.inputShape (A.ops.map (·.1))
  recorded : RecordedOK A.inputShape A.ops
  compat : Compat A.inputShape (A.ops.map (·.1))

theorem C18_new (n : Nat) : (Arch.new n : Arch α).Inv := ⟨rfl, trivial, trivial⟩

theorem actKind_layerOut (k : ActKind α) (i d : Nat) : layerOut d (k.mk i) = d := by
  cases k <;> rfl

/-- what an accepted call does: append entries to the queue, set the current shape -/
def Arch.push (A : Arch α) (new : List (Layer α × Nat)) (sh : Nat) : Arch α :=
  { A with currentShape := sh, ops := A.ops ++ new }

theorem acts_facts (k : ActKind α) (d : Nat) : ∀ is : List Nat, (∀ i ∈ is, i < d) →
    netDim d (is.map k.mk) = d ∧ Compat d (is.map k.mk) ∧ RecordedOK d (is.map fun i => (k.mk i, d))
  | [], _ => ⟨rfl, trivial, trivial⟩
  | i :: is, h => by
    obtain ⟨h1, h2, h3⟩ := acts_facts k d is fun j hj => h j (List.mem_cons_of_mem _ hj)
    have hi := h i List.mem_cons_self
    refine ⟨?_, ?_, (actKind_layerOut k i d).symm, h3⟩
    · rw [List.map_cons, netDim, List.foldl_cons, actKind_layerOut]; exact h1
    · cases k <;> exact ⟨hi, h2⟩

theorem Arch.step_cases (A : Arch α) (c : Call α) :
    A.step c = A ∨ ∃ new, A.step c = Arch.push A new (netDim A.currentShape (new.map (·.1))) ∧
      Compat A.currentShape (new.map (·.1)) ∧ RecordedOK A.currentShape new := by
  cases c with
  | linear a =>
    by_cases h : A.currentShape = a.indim
    · exact Or.inr ⟨[(.linear a, a.outdim)], by simp only [Arch.step, Arch.linear, if_pos h]; rfl,
        ⟨h.symm, trivial⟩, rfl, trivial⟩
    · exact Or.inl (by simp only [Arch.step, Arch.linear, if_neg h])
  | partialAct k i =>
    by_cases h : i < A.currentShape
    · refine Or.inr ⟨[(k.mk i, A.currentShape)], ?_, by cases k <;> exact ⟨h, trivial⟩, (actKind_layerOut k i _).symm, trivial⟩
      simp only [Arch.step, Arch.partialAct, if_pos h, List.map_singleton, netDim, List.foldl, actKind_layerOut]; rfl
    · exact Or.inl (by simp only [Arch.step, Arch.partialAct, if_neg h])
  | fullAct k =>
    obtain ⟨h1, h2, h3⟩ := acts_facts k A.currentShape (List.range A.currentShape) fun i hi => List.mem_range.mp hi
    refine Or.inr ⟨_, ?_, by rwa [List.map_map], h3⟩
    rw [List.map_map]
    exact (congrArg (Arch.push A _) h1).symm
  | argmax =>
    by_cases h : A.currentShape < 2
    · exact Or.inl (by simp only [Arch.step, Arch.argmax, if_pos h])
    · exact Or.inr ⟨[(.argmax, 1)], by simp only [Arch.step, Arch.argmax, if_neg h]; rfl,
        ⟨Nat.not_lt.mp h, trivial⟩, rfl, trivial⟩

theorem C18_step_inputShape (A : Arch α) (c : Call α) : (A.step c).inputShape = A.inputShape := by
  rcases Arch.step_cases A c with h | ⟨new, h, _⟩ <;> exact (congrArg Arch.inputShape h).trans rfl

def linearWF : List (Layer α) → Prop
  | [] => True
  | .linear a :: ls => a.WF ∧ linearWF ls
  | _ :: ls => linearWF ls

theorem layersOK_of_compat (d : Nat) (ls : List (Layer α)) (hc : Compat d ls) (hw : linearWF ls) :
    LayersOK d ls := by
  induction ls generalizing d with
  | nil => trivial
  | cons l ls ih =>
    cases l with
    | linear a => exact ⟨hw.1, hc.1, ih _ hc.2 hw.2⟩
    | _ => exact ⟨hc.1, ih _ hc.2 hw⟩

theorem recorded_getElem? (d : Nat) (ops : List (Layer α × Nat)) (j : Nat) (o : Layer α × Nat)
    (h : RecordedOK d ops) (ho : ops[j]? = some o) : o.2 = netDim d ((ops.take (j+1)).map (·.1)) := by
  induction ops generalizing d j with
  | nil => cases ho
  | cons p ops ih =>
    cases j with
    | zero => cases ho; exact h.1
    | succ j => rw [ih _ j h.2 ho, h.1]; rfl

/-- names without an index sort first, the others by index -/
def entryKey (s : String) : Nat := (entryIndex s).elim 0 (· + 1)

theorem entryLe_iff (a b : String) :
    entryLe a b = true ↔ entryKey a < entryKey b ∨ (entryKey a = entryKey b ∧ a ≤ b) := by
  unfold entryLe entryKey
  cases entryIndex a with
  | none =>
    cases entryIndex b with
    | none => exact decide_eq_true_iff.trans ⟨fun h => .inr ⟨rfl, h⟩, fun h => h.elim (fun h => absurd h (Nat.lt_irrefl 0)) (·.2)⟩
    | some y => exact ⟨fun _ => .inl (Nat.succ_pos y), fun _ => rfl⟩
  | some x =>
    cases entryIndex b with
    | none => exact ⟨fun h => (nomatch h), fun h => h.elim (fun h => (nomatch h)) (fun h => (nomatch h.1))⟩
    | some y =>
      show (decide (x < y) || (x == y && decide (a ≤ b))) = true ↔ x + 1 < y + 1 ∨ (x + 1 = y + 1 ∧ a ≤ b)
      rw [Bool.or_eq_true, Bool.and_eq_true, decide_eq_true_iff, decide_eq_true_iff, beq_iff_eq, Nat.succ_lt_succ_iff,
        Nat.succ_inj]

theorem entryLe_total (a b : String) : (entryLe a b || entryLe b a) = true := by
  rw [Bool.or_eq_true, entryLe_iff, entryLe_iff]
  rcases Nat.lt_trichotomy (entryKey a) (entryKey b) with h | h | h
  · exact .inl (.inl h)
  · exact (String.le_total a b).imp (fun h' => .inr ⟨h, h'⟩) (fun h' => .inr ⟨h.symm, h'⟩)
  · exact .inr (.inl h)

theorem entryLe_trans (a b c : String) (h1 : entryLe a b = true) (h2 : entryLe b c = true) : entryLe a c = true := by
  rw [entryLe_iff] at *
  rcases h1 with h1 | ⟨e1, h1⟩ <;> rcases h2 with h2 | ⟨e2, h2⟩
  · exact .inl (h1.trans h2)
  · exact .inl (e2 ▸ h1)
  · exact .inl (e1 ▸ h2)
  · exact .inr ⟨e1.trans e2, String.le_trans h1 h2⟩

/-- the order in which `read_layers` processes the entries of a file -/
def readOrder (names : List String) : List String := names.mergeSort entryLe

theorem takeWhile_digits (ds : List Char) (c : Char) (rest : List Char) (hd : ds.all Char.isDigit = true)
    (hc : c.isDigit = false) : (ds ++ c :: rest).takeWhile Char.isDigit = ds := by
  rw [List.takeWhile_append_of_pos (List.all_eq_true.mp hd),
    List.takeWhile_cons_of_neg (by rw [hc]; exact Bool.false_ne_true), List.append_nil]

/-- on `<digits>.<rest>` the parser strips one trailing `.npy` from `rest` and checks the kind characters -/
theorem parseEntryChars_digits_dot (ds rest : List Char) (hne : ds ≠ []) (hd : ds.all Char.isDigit = true) :
    parseEntryChars (ds ++ '.' :: rest) =
      if (if rest.length ≥ 4 && rest.drop (rest.length - 4) == npySuffix then rest.take (rest.length - 4)
          else rest).all isKindChar
      then some (ds, if rest.length ≥ 4 && rest.drop (rest.length - 4) == npySuffix then rest.take (rest.length - 4)
          else rest)
      else none := by
  unfold parseEntryChars
  simp only [takeWhile_digits ds '.' rest hd (by decide), List.isEmpty_iff, hne, if_false, List.drop_left]

end Structure

variable {α : Type} [Field α] [LinearOrder α] [IsStrictOrderedRing α]

/-! ### acceptance: every checked builder call is `if guard then ok … else error …` -/

theorem C18_linear_accept_iff (A : Arch α) (a : Aff α) : (∃ A', A.linear a = .ok A') ↔ A.currentShape = a.indim :=
  ite_ok_iff ..

theorem C18_partial_accept_iff (A : Arch α) (mk : Nat → Layer α) (i : Nat) :
    (∃ A', A.partialAct mk i = .ok A') ↔ i < A.currentShape :=
  ite_ok_iff ..

theorem C18_argmax_accept_iff (A : Arch α) : (∃ A', A.argmax = .ok A') ↔ 2 ≤ A.currentShape := by
  unfold Arch.argmax
  rw [← ite_not, ite_ok_iff, Nat.not_lt]

theorem C18_step (A : Arch α) (c : Call α) (h : A.Inv) : (A.step c).Inv ∧ (A.step c).inputShape = A.inputShape := by
  refine ⟨?_, C18_step_inputShape A c⟩
  rcases Arch.step_cases A c with hs | ⟨new, hs, hc, hr⟩ <;> rw [hs]
  · exact h
  · -- appending entries that are compatible and rightly recorded at the current shape keeps the invariant
    obtain ⟨hsh, hrec, hcomp⟩ := h
    rw [hsh] at hc hr ⊢
    exact ⟨by rw [Arch.push, List.map_append, netDim_append], (recordedOK_append ..).mpr ⟨hrec, hr⟩,
      by rw [Arch.push, List.map_append]; exact (compat_append ..).mpr ⟨hcomp, hc⟩⟩

theorem C18_history (n : Nat) (calls : List (Call α)) : (calls.foldl Arch.step (Arch.new n : Arch α)).Inv :=
  List.foldlRecOn calls _ (C18_new n) fun A h c _ => (C18_step A c h).1

theorem C18_accepted_distills {σ : Type} (tol : α) (O : Oracles σ α) (hlp : InfeasibleSound O.lp) (k : NetConsts α)
    (n : Nat) (calls : List (Call α)) (s : σ) (x : List α) (hx : x.length = n)
    (hw : linearWF ((calls.foldl Arch.step (Arch.new n : Arch α)).ops.map (·.1))) :
    let layers := (calls.foldl Arch.step (Arch.new n : Arch α)).ops.map (·.1)
    LayersOK n layers ∧
    PT.eval (afftreeFromLayers tol O k n none layers s).1 x = some (netEval k layers x) := by
  intro layers
  -- no call changes the input shape
  have hin : (calls.foldl Arch.step (Arch.new n : Arch α)).inputShape = n :=
    List.foldlRecOn (motive := fun A : Arch α => A.inputShape = n) calls _ rfl
      fun A h c _ => (C18_step_inputShape A c).trans h
  have hok : LayersOK n layers := layersOK_of_compat n layers (hin ▸ (C18_history n calls).compat) hw
  exact ⟨hok, C01_distill_faithful_total tol O hlp k n layers s hok x hx⟩

theorem C18_extract_range (A : Arch α) (h : A.Inv) (s e : Nat) (hse : s < e) (he : e ≤ A.ops.length) :
    ∃ R, A.extractRange s e = .ok R ∧ R.ops = (A.ops.drop s).take (e - s) ∧
      R.inputShape = netDim A.inputShape ((A.ops.take s).map (·.1)) ∧
      R.currentShape = netDim A.inputShape ((A.ops.take e).map (·.1)) := by
  have he1 : e - 1 < A.ops.length := Nat.lt_of_lt_of_le (Nat.sub_lt (Nat.zero_lt_of_lt hse) Nat.one_pos) he
  refine ⟨_, if_neg (not_or.mpr ⟨Nat.not_le.mpr hse, Nat.not_lt.mpr he⟩), rfl, ?_, ?_⟩
  · -- the shape read off in front of position `s`: the input shape, or what entry `s − 1` records
    show (if s = 0 then _ else ((A.ops.drop (s - 1)).head?.map (·.2)).getD _) = _
    cases s with
    | zero => rfl
    | succ j =>
      have hj : j < A.ops.length := Nat.lt_of_lt_of_le (Nat.lt_of_succ_lt hse) he
      rw [if_neg (Nat.succ_ne_zero j), Nat.add_sub_cancel, List.head?_drop, List.getElem?_eq_getElem hj]
      exact recorded_getElem? _ _ j _ h.recorded (List.getElem?_eq_getElem hj)
  · -- the last entry of the slice is entry `e − 1`
    show ((((A.ops.drop s).take (e - s)).getLast?.map (·.2)).getD _) = _
    have hlast : ((A.ops.drop s).take (e - s)).getLast? = A.ops[e - 1]? := by
      rw [List.getLast?_eq_getElem?, List.length_take, List.length_drop, Nat.min_eq_left (Nat.sub_le_sub_right he s),
        List.getElem?_take_of_lt (Nat.sub_lt (Nat.sub_pos_of_lt hse) Nat.one_pos), List.getElem?_drop]
      congr 1; omega
    have hcur := recorded_getElem? _ _ _ _ h.recorded (List.getElem?_eq_getElem he1)
    rw [Nat.sub_add_cancel (Nat.zero_lt_of_lt hse)] at hcur
    rw [hlast, List.getElem?_eq_getElem he1]
    exact hcur

theorem C18_split (A : Arch α) (h : A.Inv) (k : Nat) (hk0 : 0 < k) (hk : k < A.ops.length) (c : NetConsts α) :
    ∃ H T, A.extractRange 0 k = .ok H ∧ A.extractRange k A.ops.length = .ok T ∧
      H.ops ++ T.ops = A.ops ∧ H.inputShape = A.inputShape ∧ H.currentShape = T.inputShape ∧
      T.currentShape = A.currentShape ∧
      ∀ x, netEval c (A.ops.map (·.1)) x = netEval c (T.ops.map (·.1)) (netEval c (H.ops.map (·.1)) x) := by
  obtain ⟨H, hH, hHo, hHi, hHc⟩ := C18_extract_range A h 0 k hk0 hk.le
  obtain ⟨T, hT, hTo, hTi, hTc⟩ := C18_extract_range A h k A.ops.length hk le_rfl
  have hops : H.ops ++ T.ops = A.ops := by
    rw [hHo, hTo, List.drop_zero, Nat.sub_zero, List.take_of_length_le (l := A.ops.drop k) (by rw [List.length_drop]),
      List.take_append_drop]
  refine ⟨H, T, hH, hT, hops, hHi, hHc.trans hTi.symm, ?_, fun x => ?_⟩
  · rw [hTc, List.take_length, h.shape]
  · rw [← hops, List.map_append, netEval, List.foldl_append]; rfl

theorem C18_read_layers_unfold (names : List String) (arrays : String → Option (Aff α)) :
    readLayers names arrays = readLayers.go arrays (readOrder names) 0 [] := rfl

theorem C18_read_order_sorted (names : List String) : (readOrder names).Pairwise (fun a b => entryLe a b = true) :=
  List.pairwise_mergeSort entryLe_trans entryLe_total names

theorem C18_read_order_perm (names : List String) : (readOrder names).Perm names := List.mergeSort_perm names entryLe

theorem C18_read_order_index (names : List String) :
    (readOrder names).Pairwise (fun a b => ∀ x y, entryIndex a = some x → entryIndex b = some y → x ≤ y) := by
  refine (C18_read_order_sorted names).imp fun {a b} h x y hx hy => ?_
  rw [entryLe_iff, entryKey, entryKey, hx, hy] at h
  rcases h with h | ⟨h, _⟩
  · exact Nat.le_of_lt (Nat.lt_of_succ_lt_succ h)
  · exact Nat.le_of_eq (Nat.succ.inj h)

/-- a ReLU entry: one operator per neuron of the preceding linear layer (`dim` is its output dimension) -/
theorem C18_read_step_relu (arrays : String → Option (Aff α)) (nm d : String) (rest : List String) (dim : Nat)
    (acc : List (Layer α)) (h : parseEntryName nm = some (d, "relu")) :
    readLayers.go arrays (nm :: rest) dim acc = readLayers.go arrays rest dim (acc ++ (List.range dim).map Layer.relu) := by
  simp [readLayers.go, h]

/-- a weights entry: the stored matrix and bias become the next linear layer, whose output dimension is what the
    following activation entries expand to -/
theorem C18_read_step_linear (arrays : String → Option (Aff α)) (nm d : String) (rest : List String) (dim : Nat)
    (acc : List (Layer α)) (a : Aff α) (h : parseEntryName nm = some (d, "linear.weights"))
    (ha : arrays (d ++ ".linear.weights.npy") = some a) :
    readLayers.go arrays (nm :: rest) dim acc = readLayers.go arrays rest a.outdim (acc ++ [.linear a]) := by
  simp [readLayers.go, h, ha]

theorem C18_read_step_ignored (arrays : String → Option (Aff α)) (nm : String) (rest : List String) (dim : Nat)
    (acc : List (Layer α)) (h : parseEntryName nm = none) :
    readLayers.go arrays (nm :: rest) dim acc = readLayers.go arrays rest dim acc := by
  simp [readLayers.go, h]

/-! `parseEntryName` is `parseEntryChars` on the characters of the name (by definition). The documented dialect writes
an entry as `<index>.<kind>` with an optional `.npy`. -/

/-- `<digits>.<kind>` where the kind does not itself end in `.npy` -/
theorem C18_entry_name_plain (ds body : List Char) (hne : ds ≠ []) (hd : ds.all Char.isDigit = true)
    (hk : body.all isKindChar = true)
    (hns : (decide (body.length ≥ 4) && body.drop (body.length - 4) == npySuffix) = false) :
    parseEntryChars (ds ++ '.' :: body) = some (ds, body) := by
  rw [parseEntryChars_digits_dot ds body hne hd, hns]
  exact if_pos hk

theorem C18_entry_name_npy (ds body : List Char) (hne : ds ≠ []) (hd : ds.all Char.isDigit = true)
    (hk : body.all isKindChar = true) :
    parseEntryChars (ds ++ '.' :: (body ++ npySuffix)) = some (ds, body) := by
  have hlen : (body ++ npySuffix).length - 4 = body.length := by rw [List.length_append]; exact Nat.add_sub_cancel ..
  rw [parseEntryChars_digits_dot ds _ hne hd, hlen, List.drop_left, List.take_left,
    decide_eq_true (by rw [List.length_append]; exact Nat.le_add_left 4 _)]
  exact if_pos hk

/-- names outside the pattern: no leading digit, or no dot after the index -/
theorem C18_entry_name_rejected (cs : List Char) :
    (cs.head?.map Char.isDigit ≠ some true → parseEntryChars cs = none) ∧
    (∀ ds c rest, ds.all Char.isDigit = true → c.isDigit = false → c ≠ '.' → cs = ds ++ c :: rest →
      parseEntryChars cs = none) := by
  refine ⟨fun h => ?_, fun ds c rest hd hc hdot hcs => ?_⟩
  · -- no leading digit: the index is empty
    have : cs.takeWhile Char.isDigit = [] := by
      cases cs with
      | nil => rfl
      | cons a as => exact List.takeWhile_cons_of_neg fun ha => h (congrArg some ha)
    unfold parseEntryChars
    rw [this]; rfl
  · subst hcs
    unfold parseEntryChars
    rw [takeWhile_digits ds c rest hd hc]
    dsimp only
    rw [List.drop_left]
    by_cases he : ds.isEmpty = true
    · exact if_pos he
    · rw [if_neg he]
      split
      · rename_i heq; exact absurd (List.cons.inj heq).1 hdot
      · rfl

theorem C18_entry_name_chars (cs : List Char) :
    parseEntryName (String.ofList cs) =
      (parseEntryChars cs).map (fun p => (String.ofList p.1, String.ofList p.2)) := by
  unfold parseEntryName
  simp

/-- non-vacuity: `12.relu.npy` and a name outside the pattern -/
example : parseEntryChars ['1', '2', '.', 'r', 'e', 'l', 'u', '.', 'n', 'p', 'y'] = some (['1', '2'], ['r', 'e', 'l', 'u']) := by
  decide +kernel
example : parseEntryChars ['x', '.', 'r', 'e', 'l', 'u'] = none := by decide +kernel

end AV
