import AffVerif.Model.Distill
import AffVerif.Proofs.InfSound
import AffVerif.Props.C03
import AffVerif.Props.C17
/-!
# C01 — distillation is faithful: the tree computes exactly the network

`afftreeFromLayers` is the fold of `afftree_from_layers_generic` (`apply_func` for a linear layer;
`compose::<false>` with the activation's schema tree followed by `infeasible_elimination` for ReLU, leaky ReLU,
hard tanh, hard sigmoid; `compose::<true>` for the heads); `netEval` is the specification — the layer list applied
directly to the input, no trees involved.

Proved (`C01_distill_faithful`): for every dimension-consistent sequence of linear layers and per-neuron
activations of the four kinds, every precondition tree (in particular `from_poly` of a polytope, with or without
else-branch: the distilled tree is undefined exactly where the precondition is) and every LP backend that is right
when it answers "infeasible" — no completeness assumption: faithfulness survives any amount of missed pruning —
the distilled tree returns the network's output at *every* input, breakpoints included.
The theorem is over any ordered field; with the hard-sigmoid slope as a parameter it covers both the textbook
`1/6` and the `f64` constant of the code.
Sequences containing an `argmax` / class-characterisation head are covered as well (`compose::<true>` with the
tournament / chain tree of C17, for every LP backend that is right about infeasibility).
The rounding clause of C01 (non-representable intermediate values) is outside the reach of a theorem over fields;
see DESIGN.md.
-/
set_option linter.unusedSectionVars false
namespace AV

theorem Option.bind_eq_map_of {β γ : Type} (o : Option β) (f : β → Option γ) (φ : β → γ)
    (h : ∀ y, o = some y → f y = some (φ y)) : o.bind f = o.map φ := by
  cases o with
  | none => rfl
  | some y => exact h y rfl

variable {α : Type} [Field α] [LinearOrder α] [IsStrictOrderedRing α]

def DistInv (n dim : Nat) (t : PT α) : Prop := PT.Shaped 2 n dim t ∧ PT.InfSound [] t

theorem distill_activation {σ : Type} (tol : α) (O : Oracles σ α) (hlp : InfeasibleSound O.lp)
    (n dim : Nat) (t g : PT α) (φ : List α → List α) (s : σ)
    (hI : DistInv n dim t) (hg : PT.Shaped 2 dim dim g)
    (hφ : ∀ y : List α, y.length = dim → PT.eval g y = some (φ y)) :
    DistInv n dim (infeasibleElimination tol O n (PT.compose t g) s).1 ∧
    ∀ x : List α, x.length = n →
      PT.eval (infeasibleElimination tol O n (PT.compose t g) s).1 x = (PT.eval t x).map φ := by
  have hsh : PT.Shaped 2 n dim (PT.compose t g) := C04_compose t g _ 2 n dim dim hI.1 hg
  have hinf : PT.InfSound [] (PT.compose t g) := PT.infSound_composeS Schema.compose t g _ [] hI.2
  refine ⟨⟨C04_elim tol O n dim _ s hsh, ?_⟩, fun x hx => ?_⟩
  · exact PT.infSound_infeasibleElimination tol O hlp n _ s (PT.elimOK_of_shaped _ n dim hsh) hinf
  · rw [C03_elim_sound tol O hlp n dim _ s x hsh hinf, C02_compose_law' t g x 2 n dim dim hx hI.1 hg]
    exact Option.bind_eq_map_of _ _ φ fun y he => hφ y (eval_length t 2 n dim x y hI.1 he)

theorem distillLayer_linear {σ : Type} (tol : α) (O : Oracles σ α) (k : NetConsts α) (n : Nat) (t : PT α)
    (dim : Nat) (a : Aff α) (s : σ) :
    distillLayer tol O k n t dim (.linear a) s = (PT.applyFunc t a, a.outdim, s) := rfl

theorem distillLayer_relu {σ : Type} (tol : α) (O : Oracles σ α) (k : NetConsts α) (n : Nat) (t : PT α)
    (dim i : Nat) (s : σ) :
    distillLayer tol O k n t dim (.relu i) s =
      ((infeasibleElimination tol O n (PT.compose t (Sch.partialReLU dim i)) s).1, dim,
       (infeasibleElimination tol O n (PT.compose t (Sch.partialReLU dim i)) s).2) := rfl

theorem distillLayer_leaky {σ : Type} (tol : α) (O : Oracles σ α) (k : NetConsts α) (n : Nat) (t : PT α)
    (dim i : Nat) (a : α) (s : σ) :
    distillLayer tol O k n t dim (.leakyRelu i a) s =
      ((infeasibleElimination tol O n (PT.compose t (Sch.partialLeakyReLU dim i a)) s).1, dim,
       (infeasibleElimination tol O n (PT.compose t (Sch.partialLeakyReLU dim i a)) s).2) := rfl

theorem distillLayer_hardTanh {σ : Type} (tol : α) (O : Oracles σ α) (k : NetConsts α) (n : Nat) (t : PT α)
    (dim i : Nat) (s : σ) :
    distillLayer tol O k n t dim (.hardTanh i) s =
      ((infeasibleElimination tol O n (PT.compose t (Sch.partialHardTanh dim i (-1) 1)) s).1, dim,
       (infeasibleElimination tol O n (PT.compose t (Sch.partialHardTanh dim i (-1) 1)) s).2) := rfl

theorem distillLayer_hardSigmoid {σ : Type} (tol : α) (O : Oracles σ α) (k : NetConsts α) (n : Nat) (t : PT α)
    (dim i : Nat) (s : σ) :
    distillLayer tol O k n t dim (.hardSigmoid i) s =
      ((infeasibleElimination tol O n (PT.compose t (Sch.partialHardSigmoid dim i k.three k.sixth k.half)) s).1, dim,
       (infeasibleElimination tol O n (PT.compose t (Sch.partialHardSigmoid dim i k.three k.sixth k.half)) s).2) := rfl

/-- dimension consistency of a layer list, starting at dimension `d` (what the code asserts:
    a linear layer fits the current dimension, an activation index is in range) -/
def LayersOK : Nat → List (Layer α) → Prop
  | _, [] => True
  | d, .linear a :: ls => a.WF ∧ a.indim = d ∧ LayersOK a.outdim ls
  | d, .relu i :: ls => i < d ∧ LayersOK d ls
  | d, .leakyRelu i _ :: ls => i < d ∧ LayersOK d ls
  | d, .hardTanh i :: ls => i < d ∧ LayersOK d ls
  | d, .hardSigmoid i :: ls => i < d ∧ LayersOK d ls
  | d, .argmax :: ls => 2 ≤ d ∧ LayersOK 1 ls
  | d, .classChar c :: ls => c < d ∧ LayersOK 1 ls

def layersOut : Nat → List (Layer α) → Nat
  | d, [] => d
  | _, .linear a :: ls => layersOut a.outdim ls
  | _, .argmax :: ls => layersOut 1 ls
  | _, .classChar _ :: ls => layersOut 1 ls
  | d, _ :: ls => layersOut d ls

theorem distill_head {σ : Type} (tol : α) (O : Oracles σ α) (hlp : InfeasibleSound O.lp)
    (n dim : Nat) (t g : PT α) (φ : List α → List α) (s : σ) (c : Nat)
    (hI : DistInv n dim t) (hg : PT.Shaped 2 dim 1 g)
    (hφ : ∀ y : List α, y.length = dim → PT.eval g y = some (φ y)) :
    DistInv n 1 (PT.composeP Schema.compose (isEdgeFeasible tol O.lp) n [] t g s c).1 ∧
    ∀ x : List α, x.length = n →
      PT.eval (PT.composeP Schema.compose (isEdgeFeasible tol O.lp) n [] t g s c).1 x = (PT.eval t x).map φ := by
  refine ⟨⟨C04_compose_prune _ t g s c 2 n dim 1 [] hI.1 hg, PT.infSound_composeP _ _ n [] t g s c hI.2⟩, fun x hx => ?_⟩
  rw [C03_compose_prune tol O.lp hlp t g s c x n dim 1 hx hI.1 hg hI.2]
  exact Option.bind_eq_map_of _ _ φ fun y he => hφ y (eval_length t 2 n dim x y hI.1 he)

theorem distillLayer_argmax {σ : Type} (tol : α) (O : Oracles σ α) (k : NetConsts α) (n : Nat) (t : PT α)
    (dim : Nat) (s : σ) :
    distillLayer tol O k n t dim .argmax s =
      ((PT.composeP Schema.compose (isEdgeFeasible tol O.lp) n [] t (Sch.argmax dim k.ofNat) s (PT.freshBase t)).1, 1,
       (PT.composeP Schema.compose (isEdgeFeasible tol O.lp) n [] t (Sch.argmax dim k.ofNat) s (PT.freshBase t)).2.1) := rfl

theorem distillLayer_classChar {σ : Type} (tol : α) (O : Oracles σ α) (k : NetConsts α) (n : Nat) (t : PT α)
    (dim cl : Nat) (s : σ) :
    distillLayer tol O k n t dim (.classChar cl) s =
      ((PT.composeP Schema.compose (isEdgeFeasible tol O.lp) n [] t (Sch.classChar dim cl) s (PT.freshBase t)).1, 1,
       (PT.composeP Schema.compose (isEdgeFeasible tol O.lp) n [] t (Sch.classChar dim cl) s (PT.freshBase t)).2.1) := rfl

theorem distill_layer {σ : Type} (tol : α) (O : Oracles σ α) (hlp : InfeasibleSound O.lp) (k : NetConsts α)
    (n : Nat) (l : Layer α) (ls : List (Layer α)) (t : PT α) (dim : Nat) (s : σ)
    (hI : DistInv n dim t) (hl : LayersOK dim (l :: ls)) :
    LayersOK (distillLayer tol O k n t dim l s).2.1 ls ∧
    DistInv n (distillLayer tol O k n t dim l s).2.1 (distillLayer tol O k n t dim l s).1 ∧
    ∀ x : List α, x.length = n →
      PT.eval (distillLayer tol O k n t dim l s).1 x = (PT.eval t x).map (l.eval k) := by
  have act := fun g φ => distill_activation tol O hlp n dim t g φ s hI
  have head := fun g φ => distill_head tol O hlp n dim t g φ s (PT.freshBase t) hI
  cases l with
  | linear a =>
    obtain ⟨hwf, rfl, hls⟩ := hl
    exact ⟨hls, ⟨C04_apply_func t a 2 n hwf hI.1, PT.infSound_mapTerminals _ t [] hI.2⟩,
      fun x hx => C02_apply_func t a x 2 n hwf hx hI.1⟩
  | relu i => exact ⟨hl.2, act _ _ (shaped_relu dim i) fun y => C17_relu dim i y hl.1⟩
  | leakyRelu i a => exact ⟨hl.2, act _ _ (shaped_leaky dim i a) fun y => C17_leaky_relu dim i a y hl.1⟩
  | hardTanh i => exact ⟨hl.2, act _ _ (shaped_hardTanh dim i (-1) 1) fun y => C17_hard_tanh dim i (-1) 1 y hl.1⟩
  | hardSigmoid i =>
    exact ⟨hl.2, act _ _ (shaped_hardSigmoid dim i _ _ _) fun y => C17_hard_sigmoid dim i k.three k.sixth k.half y hl.1⟩
  | argmax => exact ⟨hl.2, head _ _ (C04_ctor_argmax dim k.ofNat) fun y => C17_argmax dim k.ofNat y hl.1⟩
  | classChar cl => exact ⟨hl.2, head _ _ (C04_ctor_class_char dim cl) fun y => C17_class_char dim cl y hl.1⟩

theorem distill_fold {σ : Type} (tol : α) (O : Oracles σ α) (hlp : InfeasibleSound O.lp) (k : NetConsts α)
    (n : Nat) (layers : List (Layer α)) (t : PT α) (dim : Nat) (s : σ)
    (hI : DistInv n dim t) (hl : LayersOK dim layers) :
    ∀ x : List α, x.length = n →
      PT.eval (layers.foldl (fun (acc : PT α × Nat × σ) l => distillLayer tol O k n acc.1 acc.2.1 l acc.2.2) (t, dim, s)).1 x
        = (PT.eval t x).map (fun y => layers.foldl (fun v l => l.eval k v) y) := by
  induction layers generalizing t dim s with
  | nil => exact fun x _ => Option.map_id'.symm
  | cons l ls ih =>
    intro x hx
    obtain ⟨h1, h2, h3⟩ := distill_layer tol O hlp k n l ls t dim s hI hl
    rw [List.foldl_cons, ih _ _ _ h2 h1 x hx, h3 x hx, Option.map_map]
    rfl

/-- **C01**: with a precondition tree `pre` (output dimension `d0`) the distilled tree is
    defined exactly where `pre` is and returns the network applied to `pre`'s output; in particular for
    `pre = from_poly(P, identity, None)`: the network's output inside `P`, undefined outside -/
theorem C01_distill_faithful {σ : Type} (tol : α) (O : Oracles σ α) (hlp : InfeasibleSound O.lp)
    (k : NetConsts α) (n d0 : Nat) (pre : PT α) (layers : List (Layer α)) (s : σ)
    (hpre : PT.Shaped 2 n d0 pre) (hc : PT.InfSound [] pre) (hd : PT.firstOutdim pre = some d0)
    (hl : LayersOK d0 layers) (x : List α) (hx : x.length = n) :
    PT.eval (afftreeFromLayers tol O k n (some pre) layers s).1 x = (PT.eval pre x).map (netEval k layers) := by
  unfold afftreeFromLayers netEval
  simp only [hd, Option.getD_some]
  exact distill_fold tol O hlp k n layers pre d0 s ⟨hpre, hc⟩ hl x hx

theorem C01_distill_faithful_total {σ : Type} (tol : α) (O : Oracles σ α) (hlp : InfeasibleSound O.lp)
    (k : NetConsts α) (n : Nat) (layers : List (Layer α)) (s : σ)
    (hl : LayersOK n layers) (x : List α) (hx : x.length = n) :
    PT.eval (afftreeFromLayers tol O k n none layers s).1 x = some (netEval k layers x) := by
  unfold afftreeFromLayers netEval
  simp only
  have hI : DistInv n n (PT.fromAff 2 (Aff.identity n : Aff α)) :=
    ⟨shaped_leaf 0 n n _ (identity_ok n), PT.infSound_of_fresh _ [] ⟨rfl, trivial⟩⟩
  rw [distill_fold tol O hlp k n layers _ n s hI hl x hx,
    show PT.eval (PT.fromAff 2 (Aff.identity n : Aff α)) x = some ((Aff.identity n : Aff α).apply x) from rfl,
    C16_identity n x hx]
  rfl

end AV
