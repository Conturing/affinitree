import AffVerif.Props.C05
import AffVerif.Proofs.Effective
/-!
# C11 — pruning is fail-safe when the LP solver misbehaves

The listed faults (solver error, "unbounded", a perturbed or far-off "optimal" point) never fabricate an
`Infeasible` answer.  The theorems quantify over *every* oracle behaviour at *every* call — `lp` and `mirror`
are arbitrary state-threaded functions; the only hypothesis is that an `infeasible` answer is right
(`InfeasibleSound`), which the faults do not touch.  No fault plan has to be enumerated.  The represented function is
unchanged (`C11_elim_failsafe`, `C11_compose_failsafe`), no unsound verdict is cached (`C11_no_unsound_infeasible`), and
caches, well-formedness and the `assert!` of `phase_one` survive (`C11_faults_keep_caches`, `_shape`,
`_witness_lists_nonempty`).
-/
set_option linter.unusedSectionVars false
namespace AV
variable {α : Type} [Field α] [LinearOrder α] [IsStrictOrderedRing α]

/-- a backend that misbehaves in the listed ways at arbitrary calls: it answers like `base`, except that at
    the calls selected by `faulty` it returns whatever `garbage` says — as long as that is not `infeasible` -/
def faultyOracle {σ : Type} (base : LPOracle σ α) (faulty : σ → Aff α → List α → Bool)
    (garbage : σ → Aff α → List α → LPAnswer α) : LPOracle σ α :=
  fun s p c =>
    if faulty s p c then
      (match garbage s p c with
       | .infeasible => .error      -- the fault kinds of C11 never produce `infeasible`
       | a => a, (base s p c).2)
    else base s p c

/-- faults of the listed kinds keep the one property pruning relies on -/
theorem C11_faults_keep_infeasible_sound {σ : Type} (base : LPOracle σ α) (hb : InfeasibleSound base)
    (faulty : σ → Aff α → List α → Bool) (garbage : σ → Aff α → List α → LPAnswer α) :
    InfeasibleSound (faultyOracle base faulty garbage) := by
  intro s p c h
  unfold faultyOracle at h
  by_cases hf : faulty s p c = true
  · simp only [hf, if_true] at h
    cases hg : garbage s p c <;> simp [hg] at h
  · simp only [hf, Bool.false_eq_true, if_false] at h
    exact hb s p c h

theorem C11_elim_failsafe {σ : Type} (tol : α) (base : LPOracle σ α) (hb : InfeasibleSound base)
    (faulty : σ → Aff α → List α → Bool) (garbage : σ → Aff α → List α → LPAnswer α)
    (mirror : MirrorOracle σ α) (n m : Nat) (t : PT α) (s : σ) (x : List α)
    (ht : PT.Shaped 2 n m t) (hc : PT.InfSound [] t) :
    PT.eval (infeasibleElimination tol ⟨faultyOracle base faulty garbage, mirror⟩ n t s).1 x = PT.eval t x :=
  C03_elim_sound tol _ (C11_faults_keep_infeasible_sound base hb faulty garbage) n m t s x ht hc

theorem C11_compose_failsafe {σ : Type} (tol : α) (base : LPOracle σ α) (hb : InfeasibleSound base)
    (faulty : σ → Aff α → List α → Bool) (garbage : σ → Aff α → List α → LPAnswer α)
    (f g : PT α) (s : σ) (c : Nat) (x : List α) (n m p : Nat)
    (hx : x.length = n) (hf : PT.Shaped 2 n m f) (hg : PT.Shaped 2 m p g) (hc : PT.InfSound [] f) :
    PT.eval (PT.composeP Schema.compose (isEdgeFeasible tol (faultyOracle base faulty garbage)) n [] f g s c).1 x
      = (PT.eval f x).bind (PT.eval g) :=
  C03_compose_prune tol _ (C11_faults_keep_infeasible_sound base hb faulty garbage) f g s c x n m p hx hf hg hc

theorem C11_no_unsound_infeasible {σ : Type} (tol : α) (base : LPOracle σ α) (hb : InfeasibleSound base)
    (faulty : σ → Aff α → List α → Bool) (garbage : σ → Aff α → List α → LPAnswer α) (mirror : MirrorOracle σ α)
    (s : σ) (node : Nat) (pst : NState α) (path : List (Aff α)) (hyper : Aff α) (n : Nat)
    (h : (decideNode tol ⟨faultyOracle base faulty garbage, mirror⟩ s node pst path hyper n).1.isInfeasible = true) :
    ¬ ∃ x, InPath (path ++ [hyper]) x :=
  (decideNode_decided tol _ s node pst path hyper n).sound (C11_faults_keep_infeasible_sound base hb faulty garbage) h

/-- faults never poison the caches (a perturbed or far-off "optimal" point is re-checked with `contains` before it is
    stored), so a later fault-free operation that trusts the caches is sound too -/
theorem C11_faults_keep_caches {σ : Type} (tol : α) (base : LPOracle σ α) (hb : InfeasibleSound base)
    (faulty : σ → Aff α → List α → Bool) (garbage : σ → Aff α → List α → LPAnswer α)
    (mirror : MirrorOracle σ α) (hm : MirrorSound tol mirror) (n m : Nat) (t : PT α) (s : σ)
    (h : CacheOK tol n m t) :
    CacheOK tol n m (infeasibleElimination tol ⟨faultyOracle base faulty garbage, mirror⟩ n t s).1 :=
  C05_elim tol _ (C11_faults_keep_infeasible_sound base hb faulty garbage) hm n m t s h

theorem C11_faults_keep_shape {σ : Type} (tol : α) (lp : LPOracle σ α) (f g : PT α) (s : σ) (c : Nat) (n m p : Nat)
    (hf : PT.Shaped 2 n m f) (hg : PT.Shaped 2 m p g) :
    PT.Shaped 2 n p (PT.composeP Schema.compose (isEdgeFeasible tol lp) n [] f g s c).1 :=
  C04_compose_prune _ f g s c 2 n m p [] hf hg

/-- "completes without panicking": the `assert!` of `phase_one` ("nodes with the state FeasibleWitness should contain a
    non-empty vector") holds at every call, whatever the LP backend answers, since the state handed to `phase_one` is the
    state of a node of the tree. `MirrorNonempty` is proved for the model of the loop (`C06_model_mirror_nonempty`). -/
theorem C11_faults_keep_witness_lists_nonempty {σ : Type} (tol : α) (lp : LPOracle σ α) (mirror : MirrorOracle σ α)
    (hmn : MirrorNonempty mirror) (n m : Nat) (t : PT α) (s : σ) (ht : PT.Shaped 2 n m t)
    (h : PT.StSound StWNE [] t) : PT.StSound StWNE [] (infeasibleElimination tol ⟨lp, mirror⟩ n t s).1 :=
  PT.stSound_infeasibleElimination StWNE stWNE_pred.toFwd tol ⟨lp, mirror⟩ n
    (fun _ _ _ _ _ _ hd _ => hd.stWNE hmn) t s
    (PT.elimOK_of_shaped t n m ht) h

theorem C11_witness_lists_nonempty_steps {σ : Type} (S : Schema α) (ex : Explore σ α) (n : Nat) (f g : PT α) (s : σ)
    (c : Nat) (φ : Aff α → Aff α) (idx : Nat) (pts : List (List α)) (h : PT.StSound StWNE [] f) :
    PT.StSound StWNE [] (PT.composeS S f g c).1 ∧ PT.StSound StWNE [] (PT.composeP S ex n [] f g s c).1 ∧
    PT.StSound StWNE [] (PT.mapTerminals φ f) ∧ PT.StSound StWNE [] (PT.reduce f) ∧
    PT.StSound StWNE [] (PT.plant f idx pts) :=
  ⟨PT.stSound_composeS StWNE stWNE_indeterminate S f g c [] h,
   PT.stSound_composeP StWNE stWNE_indeterminate S ex n [] f g s c h,
   PT.stSound_mapTerminals StWNE φ f [] h, PT.stSound_reduce StWNE stWNE_pred f [] h,
   PT.stSound_plant StWNE stWNE_plant pts [] f idx h⟩

theorem C11_witness_lists_nonempty_fresh (t : PT α) (hf : PT.Fresh t) : PT.StSound StWNE [] t :=
  PT.stSound_of_fresh StWNE stWNE_indeterminate t [] hf

/-- non-vacuity: the fresh ReLU tree satisfies the hypotheses of `C11_faults_keep_witness_lists_nonempty`, and an oracle
    that never answers `Some` satisfies `MirrorNonempty` -/
example : PT.Shaped 2 1 1 exRelu ∧ PT.StSound StWNE [] exRelu :=
  ⟨exRelu_shaped, C11_witness_lists_nonempty_fresh exRelu ⟨rfl, ⟨rfl, trivial⟩, ⟨rfl, trivial⟩, trivial⟩⟩
example {σ : Type} : MirrorNonempty (α := Rat) (σ := σ) (fun s _ _ _ _ => (none, s)) :=
  fun _ _ _ _ _ _ _ h => (nomatch h)

end AV
