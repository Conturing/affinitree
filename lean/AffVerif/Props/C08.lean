import AffVerif.Proofs.PruneSound
import AffVerif.Proofs.ReduceLemmas
/-!
# C08 — `reduce` preserves the function and only merges identical siblings

`reduce` is modelled as the bottom-up sweep (`PT.reduceAux`); binary trees whose decisions have at most one
row (`BinDec`, what `AffTree<2>` allows: a second row would make the label exceed the branching factor).
`C08_eval`: the function is kept; `C08_size`: no node is added; `C08_post`, `C08_keeps`: what is merged and what is
kept; `C08_idem`: a second call changes nothing.
-/
set_option linter.unusedSectionVars false
namespace AV
section Structure
-- classes as implicit binders: see DESIGN.md §2
variable {α : Type} {_ : DecidableEq α}

theorem size_reduceAux_both :
    (∀ (t : PT α) isRoot, (PT.reduceAux isRoot t).size ≤ t.size) ∧ ∀ ks : PKids α, (PKids.reduceAux ks).size ≤ ks.size := by
  refine ITree.ind (fun i c ks hk isRoot => ?_) (Nat.le_refl _) (fun r ih => ih) (fun k r ihk ih => Nat.add_le_add (ihk false) ih)
  rcases PT.reduceAux_node isRoot i c ks with h | ⟨a, b, h, _, hks, _⟩ <;> rw [h]
  · exact Nat.add_le_add_left hk 1
  · -- `a` is one of the two swept children
    rw [hks] at hk
    exact Nat.le_trans (Nat.le_add_right _ _) (Nat.le_trans hk (Nat.le_add_left _ 1))

variable {_ : Zero α} {_ : Add α} {_ : Mul α} {_ : Sub α} {_ : LE α} {_ : DecidableLE α}

theorem PT.leafAt_terminal (t : PT α) (x : List α) (h : t.kids.allNone = true) : PT.leafAt t x = some t.val.aff :=
  match t with
  | .node _ _ _ => if_pos h

mutual
def PT.BinDec : PT α → Prop
  | .node _ c ks => (ks.allNone = false → c.aff.outdim ≤ 1) ∧ PKids.BinDec ks
def PKids.BinDec : PKids α → Prop
  | .nil => True
  | .cons none r => PKids.BinDec r
  | .cons (some t) r => PT.BinDec t ∧ PKids.BinDec r
end

theorem leafAt_reduceAux_both (x : List α) :
    (∀ t isRoot, PT.BinDec t → PT.leafAt (PT.reduceAux isRoot t) x = PT.leafAt t x) ∧
    ∀ ks l, PKids.BinDec ks → PKids.leafAtK (PKids.reduceAux ks) l x = PKids.leafAtK ks l x := by
  refine ITree.ind (fun i c ks ih isRoot hb => ?_) (fun _ _ => rfl) (fun r ih l hb => ?_) (fun k r ihk ih l hb => ?_)
  · have hk := ih (c.aff.label x) hb.2
    rcases PT.reduceAux_node isRoot i c ks with h | ⟨a, b, h, _, hks, ha, hbt, hab⟩ <;> rw [h]
    · show (if (PKids.reduceAux ks).allNone then _ else _) = if ks.allNone then _ else _
      rw [PKids.reduceAux_allNone, hk]
    · -- a decision over two terminals with the same map: both labels reach that map
      have hnl : ks.allNone = false := (PKids.reduceAux_allNone ks).symm.trans (congrArg IKids.allNone hks)
      show _ = if ks.allNone then _ else _
      rw [hnl, if_neg Bool.false_ne_true, ← hk, hks]
      obtain h0 | h1 := Nat.le_one_iff_eq_zero_or_eq_one.mp (label_le_one c.aff x (hb.1 hnl))
      · rw [h0]; rfl
      · rw [h1]; exact (PT.leafAt_terminal a x ha).trans (hab ▸ (PT.leafAt_terminal b x hbt).symm)
  · cases l with
    | zero => rfl
    | succ l => exact ih l hb
  · cases l with
    | zero => exact ihk false hb.1
    | succ l => exact ih l hb.2

end Structure

variable {α : Type} [Field α] [LinearOrder α] [IsStrictOrderedRing α]

theorem PKids.evalAt_reduceAux (ks : PKids α) (l : Nat) (x : List α) (hb : PKids.BinDec ks) :
    PKids.evalAt (PKids.reduceAux ks) l x = PKids.evalAt ks l x := by
  rw [PKids.evalAt_eq_leafAtK, PKids.evalAt_eq_leafAtK, (leafAt_reduceAux_both x).2 ks l hb]

/-- `reduce` never changes the value or definedness at any input -/
theorem C08_eval (t : PT α) (x : List α) (hb : PT.BinDec t) : PT.eval (PT.reduce t) x = PT.eval t x := by
  rw [PT.eval_eq_leafAt, PT.eval_eq_leafAt, PT.reduce, (leafAt_reduceAux_both x).1 t true hb]

theorem PKids.size_reduceAux (ks : PKids α) : (PKids.reduceAux ks).size ≤ ks.size := size_reduceAux_both.2 ks

theorem C08_size (t : PT α) : (PT.reduce t).size ≤ t.size := size_reduceAux_both.1 t true

mutual
/-- no decision below the root has two terminal children carrying the same map -/
def PT.Reduced (isRoot : Bool) : PT α → Prop
  | .node _ _ ks => (isRoot = true ∨ mergeable? ks = none) ∧ PKids.Reduced ks
def PKids.Reduced : PKids α → Prop
  | .nil => True
  | .cons none r => PKids.Reduced r
  | .cons (some t) r => PT.Reduced false t ∧ PKids.Reduced r
end

theorem allNone_reduced (ks : PKids α) (h : ks.allNone = true) : mergeable? ks = none ∧ PKids.Reduced ks :=
  IKids.allNone_ind (Q := fun ks => mergeable? ks = none ∧ PKids.Reduced ks) ⟨rfl, trivial⟩ (fun _ ih => ⟨rfl, ih.2⟩) ks h

theorem reduced_reduceAux_both :
    (∀ (t : PT α) isRoot, PT.Reduced isRoot (PT.reduceAux isRoot t)) ∧ ∀ ks : PKids α, PKids.Reduced (PKids.reduceAux ks) := by
  refine ITree.ind (fun i c ks hk isRoot => ?_) trivial (fun r ih => ih) (fun k r ihk ih => ⟨ihk false, ih⟩)
  cases isRoot with
  | true => exact ⟨Or.inl rfl, hk⟩
  | false =>
    rw [PT.reduceAux_nonroot]
    cases hm : mergeable? (PKids.reduceAux ks) with
    | none => exact ⟨Or.inr hm, hk⟩
    | some a =>
      -- the label-0 child is a terminal
      obtain ⟨b, _, ha, _⟩ := mergeable_spec _ a hm
      match a, ha with
      | .node _ _ ks, ha => exact ⟨Or.inr (allNone_reduced ks ha).1, (allNone_reduced ks ha).2⟩

theorem PKids.reduced_reduceAux (ks : PKids α) : PKids.Reduced (PKids.reduceAux ks) := reduced_reduceAux_both.2 ks

theorem C08_post (t : PT α) : PT.Reduced true (PT.reduce t) := reduced_reduceAux_both.1 t true

theorem reduceAux_of_reduced_both :
    (∀ (t : PT α) isRoot, PT.Reduced isRoot t → PT.reduceAux isRoot t = t) ∧
    ∀ ks : PKids α, PKids.Reduced ks → PKids.reduceAux ks = ks := by
  refine ITree.ind (fun i c ks hk isRoot h => ?_) (fun _ => rfl) (fun r ih h => congrArg (IKids.cons none) (ih h))
    (fun k r ihk ih h => congrArg₂ (fun a b => IKids.cons (some a) b) (ihk false h.1) (ih h.2))
  cases isRoot with
  | true => exact congrArg (ITree.node i c) (hk h.2)
  | false => rw [PT.reduceAux_nonroot, hk h.2, h.1.resolve_left Bool.false_ne_true]

theorem PKids.reduceAux_of_reduced (ks : PKids α) (h : PKids.Reduced ks) : PKids.reduceAux ks = ks :=
  reduceAux_of_reduced_both.2 ks h

theorem C08_idem (t : PT α) : PT.reduce (PT.reduce t) = PT.reduce t :=
  reduceAux_of_reduced_both.1 _ true (C08_post t)

/-- decisions whose children differ in matrix or bias are kept: the sweep replaces a decision only when
    `mergeable?` finds two terminal children with equal maps -/
theorem C08_keeps (i : Nat) (c : Content α) (ks : PKids α) (h : mergeable? (PKids.reduceAux ks) = none) :
    PT.reduceAux false (.node i c ks) = .node i c (PKids.reduceAux ks) := by
  rw [PT.reduceAux_nonroot, h]

end AV
