import AffVerif.Proofs.ShapeLemmas
import AffVerif.Props.C02
/-!
# C03 — pruning never changes the represented (partial) function

Composition with pruning enabled and the lifted tree operators, which prune while they copy: for every LP backend that
is right whenever it answers "infeasible" — and arbitrary otherwise — the pruned result evaluates, at every input,
exactly like the un-pruned composition, same definedness, same value (`C03_prune_eq_unpruned`: every schema, every sound
`explore` filter, every numbering of new nodes; `C03_is_edge_feasible_sound`: `is_edge_feasible` is such a filter;
`C03_compose_prune`: `f.compose::<true>(g)` has value `g(f(x))`; `C03_arith_prune`: the lifted operators, C07 says what
the un-pruned lifting computes).  Removal only happens for edges whose closed path polytope is empty, and a decision is
skipped only when its other branch is such an edge (this is how `graftP` is defined; the theorem shows that this is
enough).  The cached states of the left operand enter through `InfSound` (a node marked infeasible has an empty path
region), which C05 establishes for every history.

`infeasible_elimination` (the depth-first sweep with the three phases, deferred removal that never takes the last child
of a decision, and `forward_if_redundant`) preserves the function for every backend that is right about infeasibility
and every behaviour of the `mirror_points` heuristic (`C03_elim_sound`); the sweep removes or by-passes only
nodes marked infeasible, and the three phases give that mark only when the closed path polytope is empty
(`C03_only_infeasible_paths_disappear`, which states the second half).
-/
namespace AV
variable {α : Type} [Field α] [LinearOrder α] [IsStrictOrderedRing α]

theorem C03_prune_eq_unpruned {σ : Type} (S : Schema α) (ex : Explore σ α) (hex : ExploreSound ex)
    (n : Nat) (f g : PT α) (s : σ) (c c' : Nat) (x : List α)
    (hf : PT.PruneOK S g f) (hc : PT.InfSound [] f) :
    PT.eval (PT.composeP S ex n [] f g s c).1 x = PT.eval (PT.composeS S f g c').1 x :=
  (PT.eval_composeP_both S ex hex n g x).1 f (fun _ h => nomatch h) hf hc

theorem C03_is_edge_feasible_sound {σ : Type} (tol : α) (lp : LPOracle σ α) (h : InfeasibleSound lp) :
    ExploreSound (isEdgeFeasible tol lp) := by
  intro s e hc hp hf
  rintro ⟨x, hx⟩
  have hmem := (Poly.mem_intersectionN e.indim e.path x).2 hx
  -- the LP is asked about a non-empty polytope, so it does not answer "infeasible" and the edge is kept
  have hne : (lp s (Poly.intersectionN e.indim e.path) (zeros e.indim)).1 ≠ .infeasible :=
    fun hh => h s _ _ hh ⟨x, hmem⟩
  unfold isEdgeFeasible at hf
  rw [hc] at hf
  split at hf
  · cases hf
  · simp only at hf  -- `hne` selects the LP's "keep" alternative
    split at hf
    · rename_i hps; exact hp hps
    · split at hf <;> cases hf
    · cases hf

theorem C03_compose_prune {σ : Type} (tol : α) (lp : LPOracle σ α) (hlp : InfeasibleSound lp)
    (f g : PT α) (s : σ) (c : Nat) (x : List α) (n m p : Nat)
    (hx : x.length = n) (hf : PT.Shaped 2 n m f) (hg : PT.Shaped 2 m p g) (hc : PT.InfSound [] f) :
    PT.eval (PT.composeP Schema.compose (isEdgeFeasible tol lp) n [] f g s c).1 x
      = (PT.eval f x).bind (PT.eval g) := by
  rw [C03_prune_eq_unpruned Schema.compose _ (C03_is_edge_feasible_sound tol lp hlp) n f g s c c x
    (PKids.pruneOK_of_shaped _ g (.cons (some f) .nil) n m ⟨hf, trivial⟩ fun t ht hm =>
      (PKids.binOK_compose_of_shaped (.cons (some g) .nil) t ht p ⟨hm ▸ hg, trivial⟩).1).1 hc]
  exact C02_compose_law f g c x 2 n m p hx hf hg

theorem C03_arith_prune {σ : Type} (tol : α) (lp : LPOracle σ α) (hlp : InfeasibleSound lp)
    (op : Aff α → Aff α → Aff α) (a b : PT α) (s : σ) (c c' : Nat) (x : List α) (n m : Nat)
    (ha : PT.Shaped 2 n m a) (hb : PT.Shaped 2 n m b) (hc : PT.InfSound [] a) :
    PT.eval (PT.composeP (Schema.arith op) (isEdgeFeasible tol lp) n [] a b s c).1 x
      = PT.eval (PT.composeS (Schema.arith op) a b c').1 x :=
  C03_prune_eq_unpruned (Schema.arith op) _ (C03_is_edge_feasible_sound tol lp hlp) n a b s c c' x
    (PKids.pruneOK_of_shaped _ b (.cons (some a) .nil) n m ⟨ha, trivial⟩ fun t _ _ =>
      (PKids.binOK_arith_of_shaped op (.cons (some b) .nil) t n m ⟨hb, trivial⟩).1).1 hc

theorem C03_elim_sound {σ : Type} (tol : α) (O : Oracles σ α) (hlp : InfeasibleSound O.lp)
    (n m : Nat) (t : PT α) (s : σ) (x : List α) (ht : PT.Shaped 2 n m t) (hc : PT.InfSound [] t) :
    PT.eval (infeasibleElimination tol O n t s).1 x = PT.eval t x := by
  rw [PT.eval_eq_obs, PT.eval_eq_obs]
  exact PT.obs_infeasibleElimination _ tol O hlp n t s x (PT.elimOK_of_shaped t n m ht) hc

theorem C03_only_infeasible_paths_disappear {σ : Type} (tol : α) (O : Oracles σ α) (hlp : InfeasibleSound O.lp)
    (s : σ) (node : Nat) (pst : NState α) (path : List (Aff α)) (hyper : Aff α) (n : Nat)
    (h : (decideNode tol O s node pst path hyper n).1.isInfeasible = true) :
    ¬ ∃ x, InPath (path ++ [hyper]) x :=
  (decideNode_decided tol O s node pst path hyper n).sound hlp h

example : PT.InfSound ([] : List (Aff Rat)) exRelu :=
  ⟨fun e => (nomatch e), ⟨fun e => (nomatch e), trivial⟩, ⟨fun e => (nomatch e), trivial⟩, trivial⟩

/-- an oracle that never answers "infeasible" is sound; with it nothing is pruned -/
example : InfeasibleSound (fun (s : Unit) (_ : Aff Rat) (_ : List Rat) => (LPAnswer.unbounded, s)) := by
  intro s p c h; simp at h

end AV
