import AffVerif.Proofs.TreeLemmas
/-!
# C12 — the arena tree stays structurally consistent under any operation sequence

The model of `Tree<N,K>` is an inductive tree whose nodes carry their slab index; the arena the implementation
stores is the image `toArena` of it, and the judge accepts an arena dump of the implementation only if it *is*
such an image (`Judge/C12.lean`, after every operation of every generated history). The theorems below state what
that image and the operations guarantee, for every tree and every history:

* `C12_arena_len`, `C12_arena_leaf_flag`, `C12_arena_one_root`, `C12_links_mirror` — the structural clauses of the
  property hold for the arena of *every* tree with pairwise distinct indices;
* `C12_add_child`, `C12_remove_child`, `C12_remove_descendants`, `C12_merge`, `C12_update` — what each operation does
  to the `(index, value)` entries: surviving nodes keep index and value, nothing else appears;
* `C12_history` — distinct indices (the invariant the structural clauses need) hold in every reachable state, for
  every sequence of operations with valid and invalid arguments; a failing operation leaves the state unchanged
  (in the model by construction; on the implementation this is what the correspondence check observes).
-/
namespace AV
variable {β : Type}

/-- `len()` is the number of reachable nodes -/
theorem C12_arena_len (t : ITree β) : t.toArena.length = t.size := by
  rw [ITree.size_eq_entries, ← ITree.toArenaAux_entries t none, List.length_map]; rfl

theorem C12_arena_leaf_flag (t : ITree β) : ∀ nd ∈ t.toArena, nd.isleaf = nd.children.all Option.isNone := by
  intro nd hnd
  obtain ⟨sq, _, rfl⟩ := ITree.mem_toArena.mp hnd
  exact IKids.allNone_iff_slotIdx _

theorem C12_arena_one_root (t : ITree β) :
    ∃ r rest, t.toArena = r :: rest ∧ r.parent = none ∧ r.idx = t.idx ∧ ∀ nd ∈ rest, nd.parent.isSome = true := by
  cases t with
  | node i v ks =>
    exact ⟨⟨i, none, ks.slotIdx, ks.allNone, v⟩, ks.toArenaAux i, rfl, rfl, rfl, IKids.arena_parent ks i⟩

theorem C12_links_mirror (t : ITree β) (hnd : t.indices.Nodup) :
    ∀ a ∈ t.toArena, ∀ b ∈ t.toArena, (b.parent = some a.idx ↔ some b.idx ∈ a.children) := by
  intro a ha b hb
  obtain ⟨sa, hsa, rfl⟩ := ITree.mem_toArena.mp ha
  obtain ⟨sb, hsb, rfl⟩ := ITree.mem_toArena.mp hb
  show sb.2 = some sa.1.idx ↔ some sb.1.idx ∈ sa.1.kids.slotIdx
  rw [IKids.mem_slotIdx, List.mem_map]
  constructor
  · intro h
    rcases ITree.subs_up t sb hsb with rfl | ⟨sq', h1, h2, h3⟩
    · cases h
    · cases ITree.subs_inj t none hnd sq' h1 sa hsa (Option.some.inj (h2.symm.trans h))
      exact ⟨sb.1, h3, rfl⟩
  · rintro ⟨c, hc, hci⟩
    rw [← ITree.subs_inj t none hnd _ (ITree.subs_down t sa hsa c hc) sb hsb hci]

theorem C12_arena_indices (t : ITree β) : t.toArena.map (·.idx) = t.indices := by
  rw [ITree.indices_eq_entries, ← ITree.toArenaAux_entries t none, List.map_map]; rfl

theorem nodup_of_entries_perm {t t' : ITree β} {e : Nat × β} (h : t'.entries.Perm (e :: t.entries))
    (hnd : t.indices.Nodup) (hf : e.1 ∉ t.indices) : t'.indices.Nodup := by
  rw [ITree.indices_eq_entries] at hnd hf ⊢
  have := (h.map Prod.fst).nodup_iff
  rw [this, List.map_cons, List.nodup_cons]
  exact ⟨hf, hnd⟩

theorem nodup_of_entries_sublist {t t' : ITree β} (h : t'.entries.Sublist t.entries)
    (hnd : t.indices.Nodup) : t'.indices.Nodup := by
  rw [ITree.indices_eq_entries] at hnd ⊢
  exact hnd.sublist (h.map Prod.fst)

theorem of_ite_error {ε γ : Type} {c : Prop} [Decidable c] {e : ε} {x : Except ε γ} {r : γ}
    (h : (if c then Except.error e else x) = .ok r) : ¬c ∧ x = .ok r := by
  by_cases hc : c
  · rw [if_pos hc] at h; cases h
  · exact ⟨hc, (if_neg hc).symm.trans h⟩

theorem C12_add_child (t t' : ITree β) (p l : Nat) (v : β) (fresh : Nat) (hnd : t.indices.Nodup)
    (h : t.addChildNode p l v fresh = .ok t') : t'.entries.Perm ((fresh, v) :: t.entries) := by
  unfold ITree.addChildNode at h
  cases hs : t.find? p with
  | none => rw [hs] at h; cases h
  | some s =>
    rw [hs] at h
    obtain ⟨hlen, h⟩ := of_ite_error h
    obtain ⟨hslot, h⟩ := of_ite_error h
    cases h
    obtain ⟨pre, suf, h1, h2⟩ := ITree.modifyAt_entries
      (fun s => .node s.idx s.val (s.kids.set l (some (.node fresh v (IKids.empty s.kids.length))))) t p s hs hnd
    have hset := IKids.entries_set_some s.kids l (.node fresh v (IKids.empty s.kids.length)) (Nat.lt_of_not_le hlen)
      (Option.not_isSome_iff_eq_none.mp hslot)
    rw [ITree.entries, IKids.entries_empty] at hset
    rw [h2, h1, s.entries_eq, ITree.entries]
    -- the new pair moves from behind `(s.idx, s.val)` in the middle to the front
    exact (((hset.cons _).trans (List.Perm.swap _ _ _)).append_left pre |>.append_right suf).trans
      (by simp only [List.append_assoc, List.cons_append]; exact List.perm_middle)

theorem C12_remove_child (t t' : ITree β) (p l : Nat) (v : β) (hnd : t.indices.Nodup)
    (h : t.tryRemoveChild p l = .ok (t', v)) : t'.entries.Sublist t.entries := by
  unfold ITree.tryRemoveChild at h
  split at h
  · cases h
  · rename_i s hs
    split at h
    · cases h
    · split at h
      · cases h
      · cases h
        refine ITree.modifyAt_sublist _ t p s hs hnd ?_
        rw [s.entries_eq]
        exact (IKids.entries_set_none s.kids l).cons_cons _

theorem C12_remove_descendants (t t' : ITree β) (i k : Nat) (hnd : t.indices.Nodup)
    (h : t.removeAllDescendants i = .ok (t', k)) : t'.entries.Sublist t.entries ∧ t'.size + k = t.size := by
  unfold ITree.removeAllDescendants at h
  cases hs : t.find? i with
  | none => rw [hs] at h; cases h
  | some s =>
    rw [hs] at h
    cases h
    obtain ⟨pre, suf, h1, h2⟩ := ITree.modifyAt_entries
      (fun s => .node s.idx s.val (IKids.empty s.kids.length)) t i s hs hnd
    rw [ITree.entries, IKids.entries_empty] at h2
    rw [ITree.size_eq_entries, ITree.size_eq_entries, ITree.size_eq_entries, h2, h1, s.entries_eq]
    refine ⟨((List.Sublist.refl pre).append ((List.nil_sublist _).cons_cons _)).append (List.Sublist.refl suf), ?_⟩
    simp only [List.length_append, List.length_cons, List.length_nil]
    omega

theorem C12_merge (t t' : ITree β) (p l : Nat) (hnd : t.indices.Nodup)
    (h : t.mergeChildWithParent p l = .ok t') : t'.entries.Sublist t.entries := by
  unfold ITree.mergeChildWithParent at h
  cases hs : t.find? p with
  | none => rw [hs] at h; cases h
  | some s =>
    rw [hs] at h
    obtain ⟨_, h⟩ := of_ite_error h
    obtain ⟨_, h⟩ := of_ite_error h
    obtain ⟨_, h⟩ := of_ite_error h
    cases hg : s.kids.get? l with
    | none => rw [hg] at h; cases h
    | some c =>
      rw [hg] at h
      cases h
      refine ITree.modifyAt_sublist _ t p s hs hnd ?_
      rw [s.entries_eq]
      exact (IKids.entries_get s.kids l c hg).cons _

theorem C12_update (t t' : ITree β) (i : Nat) (v old : β) (hnd : t.indices.Nodup)
    (h : t.updateNode i v = .ok (t', old)) :
    ∃ pre suf, t.entries = pre ++ (i, old) :: suf ∧ t'.entries = pre ++ (i, v) :: suf := by
  unfold ITree.updateNode at h
  cases hs : t.find? i with
  | none => rw [hs] at h; cases h
  | some s =>
    rw [hs] at h
    cases h
    obtain ⟨pre, suf, h1, h2⟩ := ITree.modifyAt_entries (fun s => .node s.idx v s.kids) t i s hs hnd
    rw [s.entries_eq, ITree.find?_idx t i s hs] at h1
    rw [ITree.entries, ITree.find?_idx t i s hs] at h2
    exact ⟨pre, s.kids.entries ++ suf, by rw [h1, List.append_assoc]; rfl, by rw [h2, List.append_assoc]; rfl⟩

/-- the operations of the history alphabet; `fresh` is the slab key the allocator hands out for an insertion -/
inductive TOp (β : Type) where
  | addChild (parent label : Nat) (v : β) (fresh : Nat)
  | removeChild (parent label : Nat)
  | removeDescendants (i : Nat)
  | merge (parent label : Nat)
  | update (i : Nat) (v : β)

/-- one step: a call that returns an error (or panics) leaves the tree as it was -/
def ITree.step (t : ITree β) : TOp β → ITree β
  | .addChild p l v f => match t.addChildNode p l v f with | .ok t' => t' | .error _ => t
  | .removeChild p l => match t.tryRemoveChild p l with | .ok (t', _) => t' | .error _ => t
  | .removeDescendants i => match t.removeAllDescendants i with | .ok (t', _) => t' | .error _ => t
  | .merge p l => match t.mergeChildWithParent p l with | .ok t' => t' | .error _ => t
  | .update i v => match t.updateNode i v with | .ok (t', _) => t' | .error _ => t

/-- the allocator's contract: an insertion receives a key that is not in use -/
def TOp.freshFor (t : ITree β) : TOp β → Prop
  | .addChild _ _ _ f => f ∉ t.indices
  | _ => True

theorem C12_step (t : ITree β) (op : TOp β) (hnd : t.indices.Nodup) (hf : op.freshFor t) :
    (t.step op).indices.Nodup := by
  cases op with
  | addChild p l v f =>
    rw [ITree.step]
    cases h : t.addChildNode p l v f with
    | error e => exact hnd
    | ok t' => exact nodup_of_entries_perm (C12_add_child t t' p l v f hnd h) hnd hf
  | removeChild p l =>
    rw [ITree.step]
    cases h : t.tryRemoveChild p l with
    | error e => exact hnd
    | ok r => exact nodup_of_entries_sublist (C12_remove_child t r.1 p l r.2 hnd h) hnd
  | removeDescendants i =>
    rw [ITree.step]
    cases h : t.removeAllDescendants i with
    | error e => exact hnd
    | ok r => exact nodup_of_entries_sublist (C12_remove_descendants t r.1 i r.2 hnd h).1 hnd
  | merge p l =>
    rw [ITree.step]
    cases h : t.mergeChildWithParent p l with
    | error e => exact hnd
    | ok t' => exact nodup_of_entries_sublist (C12_merge t t' p l hnd h) hnd
  | update i v =>
    rw [ITree.step]
    cases h : t.updateNode i v with
    | error e => exact hnd
    | ok r =>
      obtain ⟨pre, suf, h1, h2⟩ := C12_update t r.1 i v r.2 hnd h
      rw [ITree.indices_eq_entries] at hnd ⊢
      rw [h1, List.map_append, List.map_cons] at hnd
      rwa [h2, List.map_append, List.map_cons]

def FreshHistory : ITree β → List (TOp β) → Prop
  | _, [] => True
  | t, op :: ops => op.freshFor t ∧ FreshHistory (t.step op) ops

theorem C12_history (t : ITree β) (ops : List (TOp β)) (hnd : t.indices.Nodup) (hf : FreshHistory t ops) :
    (ops.foldl ITree.step t).indices.Nodup := by
  induction ops generalizing t with
  | nil => exact hnd
  | cons op ops ih => exact ih (t.step op) (C12_step t op hnd hf.1) hf.2

/-- non-vacuity: a tree with index reuse satisfies the hypotheses and runs through a mixed history -/
def exTree : ITree Nat := .node 0 7 (.cons (some (.node 1 8 (IKids.empty 2))) (.cons none .nil))

example : exTree.indices.Nodup := by decide
example : FreshHistory exTree
    [.addChild 0 1 9 2, .removeChild 0 0, .addChild 2 0 5 1, .addChild 0 1 3 4, .update 1 6, .merge 2 0] := by
  simp only [FreshHistory, TOp.freshFor, and_true, true_and]
  decide +kernel

/-! ### the documented exception: `add_root` on a non-empty arena

`Tree::add_root` inserts a node without parent and children and moves the root pointer to it; it does not touch what is
stored already.  On the arena level (root pointer + stored nodes) the result is the *disjoint union* of the old tree's
arena — every old node keeps index, value, links and flags, but none of them is reachable any more — and the arena of
the new one-node tree, for which all clauses of C12 hold again (`C12_arena_*` applied to `newRootTree`).  `len()` is the
old size plus one, the number of reachable nodes is one: this, and nothing else, is the exception. -/

/-- arena-level state of `Tree<N, K>`: the root pointer and the stored nodes -/
structure Arena (β : Type) where
  root : Option Nat
  nodes : List (ANode β)

def ITree.arena (t : ITree β) : Arena β := ⟨some t.idx, t.toArena⟩

/-- `Tree::add_root(value)`; `fresh` is the slot the slab hands out -/
def Arena.addRoot (a : Arena β) (K : Nat) (v : β) (fresh : Nat) : Arena β :=
  ⟨some fresh, a.nodes ++ [⟨fresh, none, List.replicate K none, true, v⟩]⟩

def newRootTree (K : Nat) (v : β) (fresh : Nat) : ITree β := .node fresh v (IKids.empty K)

theorem IKids.empty_slotIdx (K : Nat) : (IKids.empty K : IKids β).slotIdx = List.replicate K none := by
  induction K with
  | zero => rfl
  | succ k ih => exact congrArg (none :: ·) ih

theorem newRootTree_arena (K : Nat) (v : β) (fresh : Nat) :
    (newRootTree K v fresh).toArena = [⟨fresh, none, List.replicate K none, true, v⟩] := by
  simp [newRootTree, ITree.toArena, ITree.toArenaAux, IKids.empty_slotIdx, IKids.toArenaAux_allNone,
    IKids.allNone_empty]

theorem C12_add_root_exception (t : ITree β) (K : Nat) (v : β) (fresh : Nat) (hf : fresh ∉ t.indices) :
    (t.arena.addRoot K v fresh).root = some (newRootTree K v fresh).idx ∧
    (t.arena.addRoot K v fresh).nodes = t.toArena ++ (newRootTree K v fresh).toArena ∧
    (t.arena.addRoot K v fresh).nodes.length = t.size + 1 ∧
    (newRootTree K v fresh).size = 1 ∧
    (∀ nd ∈ t.toArena, nd ∈ (t.arena.addRoot K v fresh).nodes ∧ nd.idx ≠ fresh) := by
  refine ⟨rfl, by rw [newRootTree_arena]; rfl, by rw [← C12_arena_len]; exact List.length_append,
    by rw [← C12_arena_len, newRootTree_arena]; rfl, fun nd hnd => ⟨List.mem_append_left _ hnd, fun h => hf ?_⟩⟩
  rw [← C12_arena_indices t, ← h]
  exact List.mem_map.2 ⟨nd, hnd, rfl⟩

/-- the first `add_root` (empty arena) is no exception -/
theorem C12_add_root_first (K : Nat) (v : β) (fresh : Nat) :
    (Arena.addRoot (⟨none, []⟩ : Arena β) K v fresh) = (newRootTree K v fresh).arena :=
  congrArg (Arena.mk (some fresh)) (newRootTree_arena K v fresh).symm

end AV
