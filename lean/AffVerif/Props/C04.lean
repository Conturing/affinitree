import AffVerif.Proofs.ShapeLemmas
import AffVerif.Proofs.DistillLemmas
import AffVerif.Proofs.SchemaLemmas
/-!
# C04 — every operation history keeps a tree well-formed and usable

`PT.Shaped K n m t`: every node map is well formed with `n` columns, every node has `K` slots, all terminals
have `m` rows, every decision has at most `log₂ K` rows, and a node is a terminal (no child) exactly when its map
is read as a terminal map — in particular a decision never loses all its children.  `Shaped` is the hypothesis
of the evaluation theorems of C02, C03 and the pruned lifting of C07 (C08 asks only that a decision has at most one row,
`BinDec`) and of "the next dimension-compatible operation does not panic"
(the model operations are total; the dimension guards the code asserts are exactly the hypotheses below).

Proved: the step theorems for `apply_func`, un-pruned and pruned `compose` (for every `explore` filter, i.e. every
solver behaviour), the four tree-tree operators, `infeasible_elimination` (for every solver behaviour), `reduce`,
negation and the mixed tree/affine operators, the constructors, and their closure under histories.
-/
set_option linter.unusedSectionVars false
namespace AV
section Structure
-- classes as implicit binders: see DESIGN.md §2
variable {α : Type} {_ : Zero α} {_ : One α} {_ : Neg α}

theorem neg_wf (f : Aff α) (hf : f.WF) : f.neg.WF ∧ f.neg.indim = f.indim ∧ f.neg.outdim = f.outdim := by
  unfold Aff.neg Aff.WF Aff.outdim
  simp only [matNeg, vneg, List.length_map, List.mem_map]
  refine ⟨⟨?_, hf.2⟩, trivial, trivial⟩
  rintro r ⟨r0, hr0, rfl⟩
  simp [hf.1 r0 hr0]

theorem shaped_dec_none (i n m : Nat) (a : Aff α) (l1 : PT α) (h : a.Maps n 1)
    (h1 : PT.Shaped 2 n m l1) : PT.Shaped 2 n m (Sch.dec i a none (some l1)) :=
  ⟨h.1, h.2.1, rfl, Bool.noConfusion, fun _ => h.2.2 ▸ Nat.le_refl 2, h1, trivial⟩

/-- the tree `from_poly`, `class_characterization` and `inf_norm` build from their rows (at `i = 0`, `c = 1`) -/
theorem shaped_chain (n m : Nat) (fl : Option (Aff α)) (f1 : Aff α)
    (hfl : ∀ a, fl = some a → a.Maps n m) (hf1 : f1.Maps n m)
    (rows : List (Aff α)) (hrows : ∀ r ∈ rows, r.Maps n 1) (i c : Nat) :
    PT.Shaped 2 n m (match rows with
      | [] => Sch.leaf i f1
      | r :: rs => Sch.chainNode fl f1 i r rs c) := by
  induction rows generalizing i c with
  | nil => exact shaped_leaf i n m f1 hf1
  | cons r rs ih =>
    obtain ⟨hr, hrs⟩ := List.forall_mem_cons.1 hrows
    obtain ⟨i', c', e⟩ := chainNode_eq fl f1 i r rs c
    show PT.Shaped 2 n m (Sch.chainNode fl f1 i r rs c)
    rw [e]
    cases fl with
    | none => exact shaped_dec_none i n m r _ hr (ih hrs i' c')
    | some a => exact shaped_dec i n m r _ _ hr (shaped_leaf c n m a (hfl a rfl)) (ih hrs i' c')

theorem subtraction_ok (n l r : Nat) : (Aff.subtraction n l r : Aff α).Maps n 1 :=
  ⟨⟨fun _ h => List.mem_singleton.1 h ▸ (List.length_map _).trans List.length_range, rfl⟩, rfl, rfl⟩

theorem constAff_ok (n : Nat) (v : α) : (Aff.constant n v : Aff α).Maps n 1 :=
  ⟨⟨fun _ h => List.mem_singleton.1 h ▸ zeros_length n, rfl⟩, rfl, rfl⟩

theorem row_ok (p : Aff α) (hp : p.WF) (i : Nat) (hi : i < p.mat.length) : (p.row i).Maps p.indim 1 := by
  refine ⟨⟨fun row hrow => ?_, rfl⟩, rfl, rfl⟩
  rw [List.mem_singleton.1 hrow]
  apply hp.1
  simp [List.getD_eq_getElem?_getD, List.getElem?_eq_getElem hi]

theorem shaped_indicatorChain (n : Nat) (rows : List (Aff α)) (hall : ∀ r ∈ rows, r.Maps n 1) :
    PT.Shaped 2 n 1 (match rows with
      | [] => Sch.leaf 0 (Aff.constant n 1)
      | r :: rs => Sch.chainNode (some (Aff.constant n (0 : α))) (Aff.constant n 1) 0 r rs 1) :=
  shaped_chain n 1 _ _ (fun _ ha => Option.some.inj ha ▸ constAff_ok n 0) (constAff_ok n 1) rows hall 0 1

theorem shaped_argmaxNode (n : Nat) (ofNat : Nat → α) (fuel idx : Nat) (aff : Aff α) (mf mt c : Nat)
    (haff : aff.Maps n 1) : PT.Shaped 2 n 1 (Sch.argmaxNode n ofNat fuel idx aff mf mt c).1 := by
  have hleaf : ∀ i k, PT.Shaped 2 n 1 (Sch.leaf i (Aff.constant n (ofNat k) : Aff α)) :=
    fun i k => shaped_leaf i n 1 _ (constAff_ok n _)
  induction fuel generalizing idx aff mf mt c with
  | zero =>
    unfold Sch.argmaxNode
    exact shaped_dec idx n 1 aff _ _ haff (hleaf _ _) (hleaf _ _)
  | succ fuel ih =>
    unfold Sch.argmaxNode
    split
    · exact shaped_dec idx n 1 aff _ _ haff
        (ih c _ (mf+1) mf _ (subtraction_ok n _ _)) (ih (c+1) _ (mf+1) mt _ (subtraction_ok n _ _))
    · exact shaped_dec idx n 1 aff _ _ haff (hleaf _ _) (hleaf _ _)

theorem removeAxesK_length (keep : List Nat) (ks : PKids α) : (Sch.removeAxesK keep ks).length = ks.length := by
  induction ks using IKids.slots_ind with
  | nil => rfl
  | none r ih => exact congrArg Nat.succ ih
  | some t r ih => exact congrArg Nat.succ ih

theorem PKids.removeAxesK_allNone (keep : List Nat) (ks : PKids α) : (Sch.removeAxesK keep ks).allNone = ks.allNone := by
  induction ks using IKids.slots_ind with
  | nil => rfl
  | none r ih => exact ih
  | some t r ih => rfl

end Structure

variable {α : Type} [Field α] [LinearOrder α] [IsStrictOrderedRing α]

theorem C04_apply_func (t : PT α) (a : Aff α) (K n : Nat) (ha : a.WF) (ht : PT.Shaped K n a.indim t) :
    PT.Shaped K n a.outdim (PT.applyFunc t a) := by
  unfold PT.applyFunc
  refine PT.shaped_mapTerminals _ t K n a.indim a.outdim (fun f hf hin hout => ?_) ht
  exact ⟨compose_wf a f ha hf, hin, compose_outdim a f⟩

theorem C04_compose (f g : PT α) (c : Nat) (K n m p : Nat) (hf : PT.Shaped K n m f) (hg : PT.Shaped K m p g) :
    PT.Shaped K n p (PT.composeS Schema.compose f g c).1 :=
  (PT.shaped_composeS_both _ g K n m m p p (fun t ht => schemaShaped_compose t ht n m p) hg).1 f c hf

theorem C04_compose_prune {σ : Type} (ex : Explore σ α) (f g : PT α) (s : σ) (c : Nat) (K n m p : Nat)
    (path : List (Aff α)) (hf : PT.Shaped K n m f) (hg : PT.Shaped K m p g) :
    PT.Shaped K n p (PT.composeP Schema.compose ex n path f g s c).1 :=
  (PT.shaped_composeP_both Schema.compose ex n g K m m p p
    (fun t ht => schemaShaped_compose t ht n m p) hg).1 f hf

theorem C04_arith_prune {σ : Type} (op : ArithOp) (ex : Explore σ α) (f g : PT α) (s : σ) (c : Nat) (K n m : Nat)
    (path : List (Aff α)) (hf : PT.Shaped K n m f) (hg : PT.Shaped K n m g) :
    PT.Shaped K n m (PT.composeP (Schema.arith op.onAff) ex n path f g s c).1 :=
  (PT.shaped_composeP_both (Schema.arith op.onAff) ex n g K m n m m
    (fun t ht => schemaShaped_arith op t ht n m) hg).1 f hf

theorem C04_elim {σ : Type} (tol : α) (O : Oracles σ α) (n m : Nat) (t : PT α) (s : σ) (h : PT.Shaped 2 n m t) :
    PT.Shaped 2 n m (infeasibleElimination tol O n t s).1 :=
  (PT.shaped_elim_both tol O n 2 m).1 t true [] t.val.state s h

theorem C04_neg (t : PT α) (K n m : Nat) (ht : PT.Shaped K n m t) : PT.Shaped K n m (PT.mapTerminals Aff.neg t) :=
  PT.shaped_mapTerminals _ t K n m m (fun f hf hin hout => by
    obtain ⟨h1, h2, h3⟩ := neg_wf f hf
    exact ⟨h1, by rw [h2, hin], by rw [h3, hout]⟩) ht

/-- the mixed tree/affine operators -/
theorem C04_scalar_op (φ : Aff α → Aff α) (t : PT α) (K n m : Nat)
    (hφ : ∀ a : Aff α, a.WF → a.indim = n → a.outdim = m → (φ a).WF ∧ (φ a).indim = n ∧ (φ a).outdim = m)
    (ht : PT.Shaped K n m t) : PT.Shaped K n m (PT.mapTerminals φ t) :=
  PT.shaped_mapTerminals φ t K n m m hφ ht

theorem C04_reduce (t : PT α) (K n m : Nat) (h : PT.Shaped K n m t) : PT.Shaped K n m (PT.reduce t) :=
  match t with
  | .node _ _ ks => PT.shaped_node_congr h (PKids.reduceAux_length ks) (PKids.reduceAux_allNone ks) (fun _ => rfl)
      (PKids.shaped_reduceAux ks K n m h.2.2.2.2.2)

/-- `AffTree::new(n)` / `from_aff(f)` -/
theorem C04_ctor_from_aff (K : Nat) (f : Aff α) (hf : f.WF) : PT.Shaped K f.indim f.outdim (PT.fromAff K f) :=
  ⟨hf, rfl, IKids.length_empty K, fun _ => rfl, fun h => Bool.noConfusion ((IKids.allNone_empty K).symm.trans h),
    PKids.shaped_of_allNone _ K _ _ (IKids.allNone_empty K)⟩

/-- one dimension-compatible transformation of a binary tree over `n` inputs: `HStep n m t m' t'` says that `t`
    (output dimension `m`) is transformed into `t'` (output dimension `m'`).  These are the operations whose step
    theorem is proved; the solver and heuristic oracles of `elim` are arbitrary. -/
inductive HStep (n : Nat) : Nat → PT α → Nat → PT α → Prop where
  | applyFunc (m : Nat) (t : PT α) (a : Aff α) (ha : a.WF) (hm : a.indim = m) :
      HStep n m t a.outdim (PT.applyFunc t a)
  | compose (m p : Nat) (t g : PT α) (c : Nat) (hg : PT.Shaped 2 m p g) :
      HStep n m t p (PT.composeS Schema.compose t g c).1
  | composePrune {σ : Type} (m p : Nat) (t g : PT α) (ex : Explore σ α) (s : σ) (c : Nat) (hg : PT.Shaped 2 m p g) :
      HStep n m t p (PT.composeP Schema.compose ex n [] t g s c).1
  | arith {σ : Type} (m : Nat) (t g : PT α) (op : ArithOp) (ex : Explore σ α) (s : σ) (c : Nat)
      (hg : PT.Shaped 2 n m g) : HStep n m t m (PT.composeP (Schema.arith op.onAff) ex n [] t g s c).1
  | elim {σ : Type} (m : Nat) (t : PT α) (tol : α) (O : Oracles σ α) (s : σ) :
      HStep n m t m (infeasibleElimination tol O n t s).1
  | reduce (m : Nat) (t : PT α) : HStep n m t m (PT.reduce t)
  | neg (m : Nat) (t : PT α) : HStep n m t m (PT.mapTerminals Aff.neg t)

theorem C04_step_shaped (n m m' : Nat) (t t' : PT α) (h : PT.Shaped 2 n m t) (st : HStep n m t m' t') :
    PT.Shaped 2 n m' t' := by
  cases st with
  | applyFunc _ _ a ha hm => subst hm; exact C04_apply_func t a 2 n ha h
  | compose _ _ _ g c hg => exact C04_compose t g c 2 n m m' h hg
  | composePrune _ _ _ g ex s c hg => exact C04_compose_prune ex t g s c 2 n m m' [] h hg
  | arith _ _ g op ex s c hg => exact C04_arith_prune op ex t g s c 2 n m [] h hg
  | elim _ _ tol O s => exact C04_elim tol O n m t s h
  | reduce => exact C04_reduce t 2 n m h
  | neg => exact C04_neg t 2 n m h

inductive HSteps (n : Nat) : Nat → PT α → Nat → PT α → Prop where
  | nil (m : Nat) (t : PT α) : HSteps n m t m t
  | cons (m m' m'' : Nat) (t t' t'' : PT α) : HStep n m t m' t' → HSteps n m' t' m'' t'' → HSteps n m t m'' t''

theorem C04_history (n m m' : Nat) (t t' : PT α) (h : PT.Shaped 2 n m t) (hs : HSteps n m t m' t') :
    PT.Shaped 2 n m' t' := by
  induction hs with
  | nil => exact h
  | cons m m' m'' t t' t'' st _ ih => exact ih (C04_step_shaped n m m' t t' h st)

/-! ### the remaining constructors: every tree a history can start from is shaped -/

theorem C04_ctor_from_poly (p fT : Aff α) (fF : Option (Aff α)) (hp : p.WF) (hT : fT.WF) (hTin : fT.indim = p.indim)
    (hF : ∀ a, fF = some a → a.WF ∧ a.indim = p.indim ∧ a.outdim = fT.outdim) :
    PT.Shaped 2 p.indim fT.outdim (Sch.fromPoly p fT fF) := by
  refine shaped_chain p.indim fT.outdim fF fT hF ⟨hT, hTin, rfl⟩ _ (fun r hr => ?_) 0 1
  obtain ⟨i, hi, rfl⟩ := List.mem_map.1 hr
  exact row_ok p hp i (List.mem_range.1 hi)

theorem C04_ctor_class_char (n c : Nat) : PT.Shaped 2 n 1 (Sch.classChar n c : PT α) := by
  unfold Sch.classChar
  apply shaped_indicatorChain
  intro r hr
  obtain ⟨i, _, rfl⟩ := List.mem_map.1 hr
  exact subtraction_ok n i c

theorem C04_ctor_inf_norm (n : Nat) (lo hi : Option α) : PT.Shaped 2 n 1 (Sch.infNorm n lo hi : PT α) := by
  unfold Sch.infNorm
  simp only
  apply shaped_indicatorChain
  intro r hr
  rcases List.mem_append.mp hr with h | h
  · cases lo with
    | none => cases h
    | some l => obtain ⟨i, _, rfl⟩ := List.mem_map.mp h; exact axisPred_ok _ _ _ _
  · cases hi with
    | none => cases h
    | some l => obtain ⟨i, _, rfl⟩ := List.mem_map.mp h; exact axisPred_ok _ _ _ _

theorem C04_ctor_argmax (n : Nat) (ofNat : Nat → α) : PT.Shaped 2 n 1 (Sch.argmax n ofNat : PT α) :=
  shaped_argmaxNode n ofNat n 0 _ 1 0 1 (subtraction_ok n 1 0)

theorem C04_ctor_activations (n r : Nat) (a lo hi lam three sixth half thr v : α) :
    PT.Shaped 2 n n (Sch.partialReLU n r : PT α) ∧ PT.Shaped 2 n n (Sch.partialLeakyReLU n r a : PT α) ∧
    PT.Shaped 2 n n (Sch.partialHardTanh n r lo hi : PT α) ∧ PT.Shaped 2 n n (Sch.partialHardShrink n r lam : PT α) ∧
    PT.Shaped 2 n n (Sch.partialHardSigmoid n r three sixth half : PT α) ∧
    PT.Shaped 2 n n (Sch.partialThreshold n r thr v : PT α) :=
  ⟨shaped_relu n r, shaped_leaky n r a, shaped_hardTanh n r lo hi,
    shaped_dec 0 n n _ _ _ (axisPred_ok n r _ _) (shaped_leaf 1 n n _ (identity_ok n))
      (shaped_dec 2 n n _ _ _ (axisPred_ok n r _ _) (shaped_leaf 3 n n _ (identity_ok n))
        (shaped_leaf 4 n n _ (diagIdx_ok n r 0))),
    shaped_hardSigmoid n r three sixth half,
    shaped_dec 0 n n _ _ _ (axisPred_ok n r _ _) (shaped_leaf 1 n n _ (identity_ok n))
      (shaped_leaf 2 n n _ (setConst_ok n r v))⟩

theorem shapedK_removeAxes (K n m : Nat) (keep : List Nat) (ks : PKids α) (h : PKids.Shaped K n m ks) :
    PKids.Shaped K keep.length m (Sch.removeAxesK keep ks) := by
  induction ks using IKids.nested_ind with
  | nil => trivial
  | none r ih => exact ih h
  | some i c ks r ihk ih =>
    obtain ⟨⟨hwf, hin, hlen, hout, hrows, hk⟩, hr⟩ := h
    have hall : (Sch.removeAxesK keep ks).allNone = ks.allNone := PKids.removeAxesK_allNone keep ks
    refine ⟨⟨⟨fun r hr => ?_, hwf.2.trans (List.length_map _).symm⟩, rfl, (removeAxesK_length keep ks).trans hlen,
      fun hl => (List.length_map _).trans (hout (hall.symm.trans hl)),
      fun hl => (congrArg (2 ^ ·) (List.length_map _)).trans_le (hrows (hall.symm.trans hl)), ihk hk⟩, ih hr⟩
    obtain ⟨r0, _, rfl⟩ := List.mem_map.1 hr
    exact List.length_map _

theorem C04_remove_axes (K n m : Nat) (keep : List Nat) (t : PT α) (h : PT.Shaped K n m t) :
    PT.Shaped K keep.length m (Sch.removeAxes keep t) :=
  (shapedK_removeAxes K n m keep (.cons (some t) .nil) ⟨h, trivial⟩).1

end AV
